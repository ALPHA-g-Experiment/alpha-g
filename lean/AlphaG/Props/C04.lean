import AlphaG.Lemmas.PwbChunks
import AlphaG.Props.C05
/-
C04 — PWB packet reassembly is arrival-order independent, loss/duplication safe and complete
(it accepts exactly the chunk sets the documentation describes), and the `TryFrom<Vec<Chunk>>`
part of C01.

The sort is abstract: theorems are stated for *any* sorted permutation `s` of the chunk list
(`SortedPermOf`), which is all `sort_unstable_by_key` promises; `sortById` (core merge sort)
is one such `s` (`sortById_spec`). The core merge sort is by well-founded recursion and does not
evaluate under `decide`: the examples give the sorted list and go through `reassemble_eq_of_sorted`.
-/
namespace AlphaG.Pwb

/-- The variant of a reassembly error, without its payload. -/
def CErr.variant : CErr → Nat
  | .deviceIdMismatch => 0
  | .channelIdMismatch => 1
  | .missingChunk _ => 2
  | .missingEndOfMessageChunk => 3
  | .misplacedEndOfMessageChunk _ => 4
  | .payloadLengthMismatch _ _ => 5
  | .badPayload _ => 6

/-- Equal packets on success, same error *variant* on failure. -/
def OutcomeEquiv (x y : Outcome CErr PwbPacket) : Prop :=
  match x, y with
  | .ok p, .ok q => p = q
  | .err e, .err f => e.variant = f.variant
  | .panic _, .panic _ => True
  | _, _ => False

instance : HasEquiv (Outcome CErr PwbPacket) := ⟨OutcomeEquiv⟩

theorem OutcomeEquiv.of_eq {x y : Outcome CErr PwbPacket} (h : x = y) : x ≈ y := by
  subst h
  show OutcomeEquiv x x
  cases x <;> simp [OutcomeEquiv]

/-- `s` is what `sort_unstable_by_key(|c| c.chunk_id)` may leave in the vector `cs`. -/
def SortedPermOf (cs s : List ChunkV) : Prop :=
  s.Perm cs ∧ s.Pairwise (fun a b => a.chunkId ≤ b.chunkId)

theorem sortById_perm (cs : List ChunkV) : (sortById cs).Perm cs := List.mergeSort_perm _ _

theorem sortById_sorted (cs : List ChunkV) :
    (sortById cs).Pairwise (fun a b => a.chunkId ≤ b.chunkId) := by
  have := List.pairwise_mergeSort (le := fun a b : ChunkV => decide (a.chunkId ≤ b.chunkId))
    (by intro a b c; simp only [decide_eq_true_eq]; omega)
    (by intro a b; simp only [Bool.or_eq_true, decide_eq_true_eq]; omega) cs
  simpa [sortById] using this

/-- The executable sort is one of the vectors `sort_unstable_by_key` may leave. -/
theorem sortById_spec (cs : List ChunkV) : SortedPermOf cs (sortById cs) :=
  ⟨sortById_perm cs, sortById_sorted cs⟩

theorem reassembleSorted_sort_irrelevant (s₁ s₂ : List ChunkV) (hp : s₁.Perm s₂)
    (h₁ : s₁.Pairwise (fun a b => a.chunkId ≤ b.chunkId))
    (h₂ : s₂.Pairwise (fun a b => a.chunkId ≤ b.chunkId)) :
    reassembleSorted s₁ = reassembleSorted s₂ := by
  have hids : s₁.map (·.chunkId) = s₂.map (·.chunkId) :=
    (hp.map _).eq_of_pairwise (le := (· ≤ ·)) (fun _ _ _ _ => Nat.le_antisymm)
      (List.pairwise_map.2 h₁) (List.pairwise_map.2 h₂)
  have hpos := idMismatchPos_congr s₁ s₂ 0 hids
  cases hm : idMismatchPos s₁ 0 with
  | some i =>
    have hm2 : idMismatchPos s₂ 0 = some i := by rw [← hpos, hm]
    simp [reassembleSorted, hm, hm2]
  | none =>
    have hd := (idMismatchPos_none_iff s₁ 0).1 hm
    have hn : (s₁.map (·.chunkId)).Nodup := by rw [hd]; exact List.nodup_range'
    -- with distinct ids both lists are strictly sorted
    rw [sorted_unique hp (strict_of_sorted h₁ hn) (strict_of_sorted h₂ ((hp.map _).nodup_iff.1 hn))]

/-- Ties between chunk ids (the only freedom an unstable sort has) only exist when the outcome
is `MissingChunk`. -/
theorem reassembleSorted_ties (s : List ChunkV) (h : ¬(s.map (·.chunkId)).Nodup) :
    ∃ i, reassembleSorted s = .err (.missingChunk i) := by
  cases hm : idMismatchPos s 0 with
  | some i => exact ⟨i, by simp [reassembleSorted, hm]⟩
  | none =>
    exfalso; apply h
    rw [(idMismatchPos_none_iff s 0).1 hm]; exact List.nodup_range'

/-- C04 (the sort is irrelevant): whichever sorted permutation the unstable sort produces, the
outcome is the same — same class, same error, same packet. A tie can only be observed as
`MissingChunk`. -/
theorem reassemble_sort_irrelevant (cs s₁ s₂ : List ChunkV) (h₁ : SortedPermOf cs s₁)
    (h₂ : SortedPermOf cs s₂) :
    reassembleWith cs s₁ = reassembleWith cs s₂
    ∧ (¬(cs.map (·.chunkId)).Nodup → ∃ i, reassembleSorted s₁ = .err (.missingChunk i)) := by
  constructor
  · have := reassembleSorted_sort_irrelevant s₁ s₂ (h₁.1.trans h₂.1.symm) h₁.2 h₂.2
    unfold reassembleWith; rw [this]
  · intro hn
    apply reassembleSorted_ties
    intro hs; exact hn ((h₁.1.map _).nodup_iff.1 hs)

theorem reassemble_eq_of_sorted (cs s : List ChunkV) (h : SortedPermOf cs s) :
    reassemble cs = reassembleWith cs s :=
  (reassemble_sort_irrelevant cs _ s (sortById_spec cs) h).1

/-- In the model (where the order-dependent `found`/`expected` payloads of the two mismatch
variants are not represented) permuting valid chunks does not change the outcome at all. -/
theorem reassemble_perm_eq (l₁ l₂ : List ChunkV) (hv : ∀ c ∈ l₁, c.Valid) (hp : l₁.Perm l₂) :
    reassemble l₁ = reassemble l₂ := by
  by_cases hne : l₁ = []
  · subst hne; rw [List.nil_perm.1 hp]
  · rw [reassemble, reassemble, reassembleWith_valid l₁ _ hv hne,
      reassembleWith_valid l₂ _ (fun c hc => hv c (hp.mem_iff.2 hc))
        (fun h => hne (List.perm_nil.1 (h ▸ hp))),
      reassembleSorted_sort_irrelevant _ _
        (((sortById_perm l₁).trans hp).trans (sortById_perm l₂).symm)
        (sortById_sorted l₁) (sortById_sorted l₂)]
    simp only [Homog.perm hp]

/-- C04 (arrival-order independence): reassembling any permutation of a list of valid chunks
gives the same packet, or an error of the same variant. -/
theorem reassemble_perm (l₁ l₂ : List ChunkV) (hv : ∀ c ∈ l₁, c.Valid) (hp : l₁.Perm l₂) :
    reassemble l₁ ≈ reassemble l₂ :=
  OutcomeEquiv.of_eq (reassemble_perm_eq l₁ l₂ hv hp)

theorem liftPayload_eq_ok {x : Outcome Err PwbPacket} {p : PwbPacket} :
    liftPayload x = .ok p ↔ x = .ok p := by
  cases x <;> simp [liftPayload]

/-- The conditions the sorted vector has passed when reassembly succeeds. -/
structure SortedGood (s : List ChunkV) : Prop where
  ids : s.map (·.chunkId) = List.range' 0 s.length
  ne : 0 < s.length
  last : lastEom s = true
  noEarlyEom : ∀ c ∈ s.take (s.length - 1), c.isEom = false
  sameLen : ∀ c ∈ s.take (s.length - 1), c.payload.length = len0 s

theorem reassembleSorted_ok_iff (s : List ChunkV) (p : PwbPacket) :
    reassembleSorted s = .ok p ↔
      SortedGood s ∧ len0 s * s.length < 2 ^ 64 ∧ decodePwb (s.flatMap (·.payload)) = .ok p := by
  unfold reassembleSorted
  simp only [ite_err_eq_ok, need_eq_ok, liftPayload_eq_ok, decide_eq_true_eq, Bool.not_eq_true,
    Option.isSome_eq_false_iff, Option.isNone_iff_eq_none, List.findIdx?_eq_none_iff,
    List.find?_eq_none, Bool.not_eq_eq_eq_not, Bool.not_true, bne_eq_false_iff_eq,
    idMismatchPos_none_iff, Bool.not_eq_false, List.isEmpty_eq_false_iff]
  constructor
  -- slots, in the order of the guards: ids are 0..n-1, non-empty, end of message on the last chunk,
  -- 0 < length, no earlier end of message, 0 < length again, equal payload lengths before the last,
  -- the product bound, the payload decodes to `p`
  · rintro ⟨h1, -, h3, -, h5, h6, h7, h8, h9⟩
    exact ⟨⟨h1, h6, h3, h5, h7⟩, h8, h9⟩
  · rintro ⟨⟨h1, h6, h3, h5, h7⟩, h8, h9⟩
    exact ⟨h1, List.ne_nil_of_length_pos h6, h3, h6, h5, h6, h7, h8, h9⟩

theorem reassembleSorted_ok {s : List ChunkV} {p : PwbPacket} (h : reassembleSorted s = .ok p) :
    SortedGood s ∧ decodePwb (s.flatMap (·.payload)) = .ok p :=
  let ⟨g, _, hd⟩ := (reassembleSorted_ok_iff s p).1 h
  ⟨g, hd⟩

theorem reassemble_ok_sorted {l : List ChunkV} {p : PwbPacket} (h : reassemble l = .ok p) :
    reassembleSorted (sortById l) = .ok p := by
  unfold reassemble reassembleWith at h
  simp only [ite_err_eq_ok, panic_ite_eq_ok] at h
  -- past the emptiness check and the two outcomes of each scan
  exact h.2.2.2.2.2

/-- C04 (agreement with direct decoding): a successful reassembly yields exactly the packet
decoded from the concatenation of the payloads in chunk-id order. -/
theorem reassemble_ok_eq_direct (l : List ChunkV) (p : PwbPacket) (h : reassemble l = .ok p) :
    decodePwb ((sortById l).flatMap (·.payload)) = .ok p :=
  (reassembleSorted_ok (reassemble_ok_sorted h)).2

/-- Same, for any sorted permutation the sort might have produced. -/
theorem reassemble_ok_eq_direct_any (l s : List ChunkV) (p : PwbPacket) (hs : SortedPermOf l s)
    (h : reassemble l = .ok p) : decodePwb (s.flatMap (·.payload)) = .ok p := by
  have h' := reassemble_ok_sorted h
  rw [reassembleSorted_sort_irrelevant _ s ((sortById_perm l).trans hs.1.symm)
    (sortById_sorted l) hs.2] at h'
  exact (reassembleSorted_ok h').2

theorem SortedGood.exists_id {s : List ChunkV} (g : SortedGood s) {i : Nat} (hi : i < s.length) :
    ∃ c ∈ s, c.chunkId = i :=
  ⟨s[i], List.getElem_mem hi, dense_getElem_id s g.ids i hi⟩

theorem SortedGood.nodup {s : List ChunkV} (g : SortedGood s) : (s.map (·.chunkId)).Nodup := by
  rw [g.ids]; exact List.nodup_range'

theorem SortedGood.eom_iff {s : List ChunkV} (g : SortedGood s) {c : ChunkV} (hc : c ∈ s) :
    c.isEom = true ↔ c.chunkId + 1 = s.length := by
  obtain ⟨hi, hci⟩ := dense_index s g.ids c hc
  have hn := g.ne
  constructor
  · intro he
    apply Decidable.byContradiction; intro hlt
    have := g.noEarlyEom c (List.mem_take_iff_getElem.2 ⟨c.chunkId, by omega, hci⟩)
    rw [he] at this; cases this
  · intro he
    have := g.last
    rw [lastEom, List.getLast?_eq_getElem?, List.getElem?_eq_getElem (by omega)] at this
    simpa only [← he, Nat.add_sub_cancel, hci] using this

theorem SortedGood.len_eq {s : List ChunkV} (g : SortedGood s) {c c0 : ChunkV} (hc : c ∈ s)
    (h0 : c0 ∈ s) (hid : c0.chunkId = 0) (hlt : c.chunkId + 1 < s.length) :
    c.payload.length = c0.payload.length := by
  obtain ⟨hi, hci⟩ := dense_index s g.ids c hc
  obtain ⟨hk, hc0⟩ := dense_index s g.ids c0 h0
  have := g.sameLen c (List.mem_take_iff_getElem.2 ⟨c.chunkId, by omega, hci⟩)
  simp only [hid] at hc0
  rw [this, ← hc0]
  cases s with
  | nil => simp at hk
  | cons a t => rfl

/-- Facts about the sorted vector of a successful reassembly, phrased on the input list. -/
theorem ok_facts {l : List ChunkV} {p : PwbPacket} (h : reassemble l = .ok p) :
    SortedGood (sortById l) ∧ (sortById l).length = l.length
      ∧ (∀ c, c ∈ sortById l ↔ c ∈ l) :=
  ⟨(reassembleSorted_ok (reassemble_ok_sorted h)).1, (sortById_perm l).length_eq,
    fun _ => (sortById_perm l).mem_iff⟩

/-- Fault: a chunk id below the number of chunks is missing (a chunk was dropped or its id
replaced). -/
theorem reassemble_fails_if_missing_id (l : List ChunkV) (i : Nat) (hi : i < l.length)
    (hm : ∀ c ∈ l, c.chunkId ≠ i) : ∀ p, reassemble l ≠ .ok p := by
  intro p h
  obtain ⟨g, hlen, hmem⟩ := ok_facts h
  obtain ⟨c, hc, hci⟩ := g.exists_id (hlen ▸ hi)
  exact hm c ((hmem c).1 hc) hci

/-- Fault: two chunks carry the same id (a chunk was duplicated). -/
theorem reassemble_fails_if_duplicated_id (l : List ChunkV) (hd : ¬(l.map (·.chunkId)).Nodup) :
    ∀ p, reassemble l ≠ .ok p :=
  fun _ h => hd (((sortById_perm l).map _).nodup_iff.1 (ok_facts h).1.nodup)

/-- Fault: chunks of two boards are mixed. -/
theorem reassemble_fails_if_two_boards (l : List ChunkV) (hv : ∀ c ∈ l, c.Valid) (c d : ChunkV)
    (hc : c ∈ l) (hd : d ∈ l) (hne : c.deviceId ≠ d.deviceId) :
    reassemble l = .err .deviceIdMismatch := by
  have hl : l ≠ [] := List.ne_nil_of_mem hc
  have hh : ¬Homog (·.deviceId) l := fun H => hne (H c hc d hd)
  unfold reassemble
  rw [reassembleWith_valid l _ hv hl]
  simp [hh]

/-- Fault: chunks of two AFTER chips are mixed (the board check comes first in the code, so the
error is one of the two mismatch variants; it is `ChannelIdMismatch` when the boards agree). -/
theorem reassemble_fails_if_two_chips (l : List ChunkV) (hv : ∀ c ∈ l, c.Valid) (c d : ChunkV)
    (hc : c ∈ l) (hd : d ∈ l) (hne : c.chip ≠ d.chip) :
    (Homog (·.deviceId) l → reassemble l = .err .channelIdMismatch)
    ∧ (reassemble l = .err .deviceIdMismatch ∨ reassemble l = .err .channelIdMismatch) := by
  have hl : l ≠ [] := List.ne_nil_of_mem hc
  have hh : ¬Homog (·.chip) l := fun H => hne (H c hc d hd)
  unfold reassemble
  rw [reassembleWith_valid l _ hv hl]
  by_cases hb : Homog (·.deviceId) l
  · simp [hh, hb]
  · simp [hb]

/-- Fault: the chunk with the highest id lacks the end-of-message flag. -/
theorem reassemble_fails_if_eom_absent_on_last (l : List ChunkV) (c : ChunkV) (hc : c ∈ l)
    (hmax : ∀ d ∈ l, d.chunkId ≤ c.chunkId) (he : c.isEom = false) :
    ∀ p, reassemble l ≠ .ok p := by
  intro p h
  obtain ⟨g, _, hmem⟩ := ok_facts h
  obtain ⟨d, hd, hdi⟩ := g.exists_id (Nat.sub_one_lt (Nat.ne_of_gt g.ne))
  have := hmax d ((hmem d).1 hd)
  have := (dense_index _ g.ids c ((hmem c).2 hc)).1
  rw [(g.eom_iff ((hmem c).2 hc)).2 (by omega)] at he
  cases he

/-- Fault: a chunk other than the one with the highest id has the end-of-message flag. -/
theorem reassemble_fails_if_eom_on_earlier (l : List ChunkV) (c d : ChunkV) (hc : c ∈ l)
    (hd : d ∈ l) (hlt : c.chunkId < d.chunkId) (he : c.isEom = true) :
    ∀ p, reassemble l ≠ .ok p := by
  intro p h
  obtain ⟨g, _, hmem⟩ := ok_facts h
  have := (g.eom_iff ((hmem c).2 hc)).1 he
  have := (dense_index _ g.ids d ((hmem d).2 hd)).1
  omega

/-- Fault: a chunk other than the one with the highest id has a payload size different from
that of chunk 0. -/
theorem reassemble_fails_if_nonfinal_size_differs (l : List ChunkV) (c d c0 : ChunkV)
    (hc : c ∈ l) (hd : d ∈ l) (h0 : c0 ∈ l) (hid0 : c0.chunkId = 0)
    (hlt : c.chunkId < d.chunkId) (hsz : c.payload.length ≠ c0.payload.length) :
    ∀ p, reassemble l ≠ .ok p := by
  intro p h
  obtain ⟨g, _, hmem⟩ := ok_facts h
  have := (dense_index _ g.ids d ((hmem d).2 hd)).1
  exact hsz (g.len_eq ((hmem c).2 hc) ((hmem c0).2 h0) hid0 (by omega))

theorem noPanic_liftPayload {x : Outcome Err PwbPacket} (h : NoPanic x) :
    NoPanic (liftPayload x) := by
  cases x with
  | ok p => exact noPanic_ok _
  | err e => exact noPanic_err _
  | panic s => exact absurd rfl (h s)

theorem reassembleSorted_total (s : List ChunkV) (hv : ∀ c ∈ s, c.Valid) (hne : s ≠ []) :
    NoPanic (reassembleSorted s) := by
  have hlen : 0 < s.length := List.length_pos_iff.2 hne
  unfold reassembleSorted
  apply noPanic_ite_err; intro hm
  apply noPanic_need (by simpa using hne)
  apply noPanic_ite_err; intro _
  apply noPanic_need (decide_eq_true hlen)
  apply noPanic_ite_err; intro _
  apply noPanic_need (decide_eq_true hlen)
  apply noPanic_ite_err; intro _
  apply noPanic_need (decide_eq_true (len0_mul_length_lt s hv
    ((idMismatchPos_none_iff s 0).1 (by simpa using hm))))
  exact noPanic_liftPayload (pwb_total _)

/-- C01/C04 (totality): reassembling any list of valid chunks (values satisfying the `Chunk`
invariant) never panics. -/
theorem reassemble_total (l : List ChunkV) (hv : ∀ c ∈ l, c.Valid) : NoPanic (reassemble l) := by
  by_cases hne : l = []
  · subst hne; exact noPanic_err _
  · unfold reassemble
    rw [reassembleWith_valid l _ hv hne]
    apply noPanic_ite_err; intro _
    apply noPanic_ite_err; intro _
    apply reassembleSorted_total
    · intro c hc; exact hv c ((sortById_perm l).mem_iff.1 hc)
    · exact fun h => hne (List.nil_perm.1 (h ▸ sortById_perm l))

/-! ### Non-vacuity: a 3-chunk message in all 6 arrival orders, and two faults -/

def ck (i fl : Nat) (p : List UInt8) : ChunkV :=
  { deviceId := 2281646316, chip := 3, flags := fl, chunkId := i, payload := p }
def c0 : ChunkV := ck 0 0 (docPacket.take 40)
def c1 : ChunkV := ck 1 0 ((docPacket.drop 40).take 40)
def c2 : ChunkV := ck 2 1 (docPacket.drop 80)

theorem sorted012 : [c0, c1, c2].Pairwise (fun a b => a.chunkId ≤ b.chunkId) := by decide

theorem valid012 : ∀ c ∈ [c0, c1, c2], c.Valid := by decide +kernel

/-- The one evaluation of the decoder on the example message; every arrival order reduces to it. -/
theorem reassemble012 {l : List ChunkV} (hp : [c0, c1, c2].Perm l) :
    reassemble l = .ok (fields docPacket) := by
  rw [← reassemble_perm_eq _ l valid012 hp,
    reassemble_eq_of_sorted _ [c0, c1, c2] ⟨.refl _, sorted012⟩]
  decide +kernel

example : reassemble [c0, c1, c2] = .ok (fields docPacket) := reassemble012 (.refl _)
example : reassemble [c0, c2, c1] = .ok (fields docPacket) := reassemble012 (by decide)
example : reassemble [c1, c0, c2] = .ok (fields docPacket) := reassemble012 (by decide)
example : reassemble [c1, c2, c0] = .ok (fields docPacket) := reassemble012 (by decide)
example : reassemble [c2, c0, c1] = .ok (fields docPacket) := reassemble012 (by decide)
example : reassemble [c2, c1, c0] = .ok (fields docPacket) := reassemble012 (by decide)
example : ∀ c ∈ [c0, c1, c2], c.Valid := valid012
-- faults are rejected (hypotheses of the `fails_if` theorems are satisfiable)
example : reassemble [c0, c2] = .err (.missingChunk 1) := by
  rw [reassemble_eq_of_sorted _ [c0, c2] ⟨by decide, by decide⟩]; decide +kernel
example : reassemble [c1, c0, c1, c2] = .err (.missingChunk 2) := by
  rw [reassemble_eq_of_sorted _ [c0, c1, c1, c2] ⟨by decide, by decide⟩]; decide +kernel

/-! ### Completeness
The acceptance condition is exactly "non-empty, one board, one chip, gap-free ids from 0,
end-of-message on the last chunk only, equal non-final sizes, concatenated payloads decode"
(`reassemble_ok_iff`): no hidden condition rejects a correct chunk set in any arrival order
(`reassemble_complete`). -/

/-- The `usize` product `chunks[0].payload().len() * chunks.len()` cannot overflow on chunks that
came out of the chunk decoder: at most 65536 gap-free ids, at most 65535 payload bytes each. -/
theorem bound_of_valid (s : List ChunkV) (hv : ∀ c ∈ s, c.Valid) (g : SortedGood s) :
    len0 s * s.length < 2 ^ 64 := len0_mul_length_lt s hv g.ids

/-- C04 (exact acceptance condition): for chunks that came out of the chunk decoder, reassembly
succeeds with `p` iff the set is non-empty, of one board and one chip, its sorted order is
`SortedGood`, and the concatenated payloads decode to `p`. -/
theorem reassemble_ok_iff (l : List ChunkV) (p : PwbPacket) (hv : ∀ c ∈ l, c.Valid) :
    reassemble l = .ok p ↔
      l ≠ [] ∧ (∀ c ∈ l, c.deviceId = dev0 l) ∧ (∀ c ∈ l, c.chip = chip0 l)
        ∧ SortedGood (sortById l) ∧ decodePwb ((sortById l).flatMap (·.payload)) = .ok p := by
  by_cases hne : l = []
  · subst hne; simp [reassemble, reassembleWith]
  · have hvs : ∀ c ∈ sortById l, c.Valid := fun c hc => hv c ((sortById_perm l).mem_iff.1 hc)
    rw [reassemble, reassembleWith_valid l _ hv hne]
    simp only [ite_err_eq_ok, Decidable.not_not, reassembleSorted_ok_iff, all_dev0_iff l hne,
      all_chip0_iff l hne, ne_eq, hne, not_false_eq_true, true_and]
    exact ⟨fun ⟨h1, h2, g, _, hd⟩ => ⟨h1, h2, g, hd⟩,
      fun ⟨h1, h2, g, hd⟩ => ⟨h1, h2, g, bound_of_valid _ hvs g, hd⟩⟩

/-- C04 (completeness): a non-empty set of valid chunks of one board and one chip whose sorted
order is a gap-free id sequence ending in the only end-of-message chunk, with equal non-final
sizes, reassembles — in any arrival order — to exactly the packet decoded from the concatenated
payloads. -/
theorem reassemble_complete (l : List ChunkV) (p : PwbPacket) (hne : l ≠ [])
    (hv : ∀ c ∈ l, c.Valid) (hdev : ∀ c ∈ l, c.deviceId = dev0 l)
    (hchip : ∀ c ∈ l, c.chip = chip0 l) (g : SortedGood (sortById l))
    (hb : len0 (sortById l) * (sortById l).length < 2 ^ 64)
    (hd : decodePwb ((sortById l).flatMap (·.payload)) = .ok p) : reassemble l = .ok p := by
  rw [reassemble, reassembleWith_valid l _ hv hne,
    if_neg (not_not_intro ((all_dev0_iff l hne).1 hdev)),
    if_neg (not_not_intro ((all_chip0_iff l hne).1 hchip))]
  exact (reassembleSorted_ok_iff _ p).2 ⟨g, hb, hd⟩

/-- C04 (transport): chunks `cs` cut from a message in id order (one board, one chip, `SortedGood`)
and delivered in *any* order `l` reassemble to exactly the packet that the concatenation of their
payloads decodes to. -/
theorem reassemble_of_sorted_perm (cs l : List ChunkV) (p : PwbPacket) (hp : cs.Perm l)
    (hs : cs.Pairwise (fun a b => a.chunkId ≤ b.chunkId)) (hv : ∀ c ∈ cs, c.Valid) (d k : Nat)
    (hdev : ∀ c ∈ cs, c.deviceId = d) (hchip : ∀ c ∈ cs, c.chip = k) (g : SortedGood cs)
    (hd : decodePwb (cs.flatMap (·.payload)) = .ok p) : reassemble l = .ok p := by
  -- in id order the sort is the identity; any other order is a permutation of valid chunks
  rw [← reassemble_perm_eq cs l hv hp, reassemble_eq_of_sorted cs cs ⟨.refl _, hs⟩,
    reassembleWith_valid cs _ hv (List.ne_nil_of_length_pos g.ne),
    if_neg (not_not_intro (Homog.of_const hdev)), if_neg (not_not_intro (Homog.of_const hchip))]
  exact (reassembleSorted_ok_iff cs p).2 ⟨g, bound_of_valid cs hv g, hd⟩

/-- Non-vacuity: the right-hand side of `reassemble_ok_iff` holds for the 3-chunk example message
in a shuffled arrival order. -/
example : [c2, c0, c1] ≠ [] ∧ (∀ c ∈ [c2, c0, c1], c.deviceId = dev0 [c2, c0, c1])
    ∧ (∀ c ∈ [c2, c0, c1], c.chip = chip0 [c2, c0, c1]) ∧ SortedGood (sortById [c2, c0, c1])
    ∧ decodePwb ((sortById [c2, c0, c1]).flatMap (·.payload)) = .ok (fields docPacket) :=
  (reassemble_ok_iff _ _ (by decide +kernel)).1 (reassemble012 (by decide))

end AlphaG.Pwb
