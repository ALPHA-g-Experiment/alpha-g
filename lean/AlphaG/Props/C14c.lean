import AlphaG.Lemmas.NelderMead
import AlphaG.Props.C14b
/-
C14c — theorems about the Nelder–Mead solver/executor model and the two fits built on it
(model: AlphaG/Model/NelderMead.lean, tied bit for bit to argmin 0.8.1 + track_fitting.rs +
vertex_fitting.rs by harness/src/c14c.rs).

Setting. `o : NOps α` is an arbitrary carrier. No arithmetic law is assumed anywhere: `+ - * / sqrt`
are arbitrary functions. The only assumptions are *order* laws `OrdLaws o Num` on the values
satisfying a predicate `Num` ("not NaN": strict weak order, `a ≤ b ↔ ¬ b < a`, every `Num` value is
`< +inf` or is `+inf`; so the carrier must contain a `+inf`) and `CostSpec cost Num n cs`: on vectors of dimension `n` the cost function
returns a `Num` value or panics at its own site `cs`. Both hold for `f64` with `Num x := ¬ x.is_nan()`
and the two cost functions of the fits (their `assert!(!val.is_nan())` is the site `cs`); `XRat` below
(ℚ with `±inf` and a NaN, `Num x := x ≠ nan`) is the non-vacuity instance.

Site inventory of the modelled argmin / glue code (every `unwrap`, index, assert):
  siteSdTol        `with_sd_tolerance(tol).unwrap()`          fires when `tol < 0`           (`run_sdTol_iff`)
  siteInitIndex    `self.params[0]` in `init`                  unreachable for n+1 ≥ 1 vertices
  siteIndex        `params[0]`, `params[len-1]`, `params[len-2]`, `len - 1` in `next_iter`,
                   `calculate_centroid`, `shrink`              unreachable for n+1 ≥ 2 vertices
  siteVecAdd/Sub   argmin-math `assert!(n > 0)`, `assert_eq!(n1, n2)`   unreachable: all vertices have dimension n ≥ 1
  siteUnreachable  `Err(PotentialBug "Reached unreachable point")` + `.run().unwrap()`
                                                               unreachable when no cost is NaN
  siteBestParam    `res.state.best_param.unwrap()`             unreachable when no cost is NaN
  siteBestIndex    `best_params[i]`                            unreachable: the result has dimension n
  siteCostIndex    `p[i]` in the cost functions                unreachable: only vectors of dimension n are evaluated
  cs               the cost function's own `assert!(!val.is_nan())`   the ONLY panic route (`nm_panic_only_cost`)
all in `nm_cases` / `minimize_cases`. Every stage (`step`, `loop`, `init`, `run`, `minimize`, the fits) is
stated as `Outcome.OkOr (CostPanic cost n cs) stage post` and the stages are chained by `OkOr.bind`; the
theorems named below are projections of those statements.

Theorems:
  (a) `nm_terminates_shape`         at most `max_iters` iterations; the simplex always has n+1 vertices of dimension n
  (b) `step_best_monotone`, `nm_best_monotone`   the reported best cost never increases from one iteration to the next
      `nm_result_spec`              the returned parameter was evaluated, its cost is ≤ the cost of every vertex of
                                    the initial simplex
  (c) `nm_no_panic_of_total_cost`, `nm_panic_only_cost`, `fit_panic_iff`, `fit_panic_iff_full`,
      `vertex_fit_panic_sites`
  (d) `sortSimplex_perm` (Lemmas), `shrink_keeps_best`, `best_param_is_first_vertex`, `fit_ok_spec`
-/
namespace AlphaG.C14c
open AlphaG AlphaG.NelderMead AlphaG.Helix AlphaG.TrackInit

section Solver
variable {α ε : Type} {o : NOps α} {cost : List α → Outcome ε α} {Num : α → Prop} {n : Nat} {cs : String}

/-- The executor-loop invariant: the simplex has the right shape, every vertex carries its (non-NaN)
cost, and `IterState`'s best parameter / best cost are the first vertex of the (sorted) simplex. -/
structure Inv (cost : List α → Outcome ε α) (Num : α → Prop) (n : Nat) (st : State α) : Prop where
  shape : Shape n st.simplex
  evaluated : Evaluated cost Num st.simplex
  best : ∃ h, st.simplex.head? = some h ∧ st.bestParam = some h.1 ∧ st.bestCost = h.2

theorem Inv.bestNum {st : State α} (h : Inv cost Num n st) : Num st.bestCost := by
  obtain ⟨v, hv, _, hc⟩ := h.best
  rw [hc]
  exact (h.evaluated v (List.mem_of_mem_head? hv)).2

theorem Inv.simplex {st : State α} (h : Inv cost Num n st) : Simplex cost Num n st.simplex :=
  .mk' h.shape h.evaluated

/-- What `init` and `step` share: sort the evaluated vertices and `update` the state with the first
of them, given that `update` accepts the first minimum. The new best cost is not above any vertex. -/
theorem enter_cases {Q : String → Prop} (L : OrdLaws o Num) {h : Vertex α} {rest : List (Vertex α)}
    (hs : Simplex cost Num n (h :: rest)) {site : String} {bp : Option (List α)} {bc : α} {tr : List Action}
    (hupd : ∀ m ∈ h :: rest, m = h ∨ o.lt m.2 h.2 = true → update o bp bc m = (some m.1, m.2)) :
    Outcome.OkOr Q (match sortSimplex o (h :: rest) with
        | [] => .panic site
        | v :: tl => (.ok ⟨v :: tl, (update o bp bc v).1, (update o bp bc v).2, tr⟩ : Outcome ε (State α)))
      fun st => Inv cost Num n st ∧ st.trace = tr ∧ ∀ v ∈ h :: rest, o.lt v.2 st.bestCost = false := by
  have hnum : ∀ v ∈ h :: rest, Num v.2 := fun v hv => (hs.vertex v hv).num
  obtain ⟨hmem, hor, hmin⟩ := firstMin_spec L h rest hnum
  obtain ⟨tl, hsort⟩ := List.head?_eq_some_iff.1 (sortSimplex_head L h rest hnum)
  have hs' := hs.perm (hsort ▸ sortSimplex_perm o (h :: rest))
  rw [hsort]
  dsimp only
  rw [hupd _ hmem hor]
  exact .ok ⟨⟨hs'.shape, hs'.evaluated, _, rfl, rfl, rfl⟩, rfl, hmin⟩

theorem update_eq (h m : Vertex α) (hm : m = h ∨ o.lt m.2 h.2 = true) :
    update o (some h.1) h.2 m = (some m.1, m.2) := by
  unfold update
  split
  · rfl
  next hacc =>
    rcases hm with rfl | hlt
    · rfl
    · exact absurd (by simp [accepts, hlt]) hacc

theorem step_cases (L : OrdLaws o Num) (hn : 0 < n) (hc : CostSpec cost Num n cs) {st : State α}
    (hinv : Inv cost Num n st) :
    Outcome.OkOr (CostPanic cost n cs) (step o cost st) fun st' =>
      Inv cost Num n st' ∧ o.lt st.bestCost st'.bestCost = false ∧ st'.trace.length = st.trace.length + 1 := by
  obtain ⟨h, hh, hbp, hbc⟩ := hinv.best
  refine (nextIter_cases L hn hc hinv.simplex).bind fun r ⟨hs', hhead⟩ => ?_
  obtain ⟨rest, hr⟩ := List.head?_eq_some_iff.1 (hhead.trans hh)
  rw [hr] at hs' ⊢
  rw [hbp, hbc]
  exact (enter_cases L hs' fun m _ => update_eq h m).mono
    (fun st' ⟨hi, ht, hle⟩ => ⟨hi, hle h List.mem_cons_self, by rw [ht]; rfl⟩) fun _ => id

/-- **(b)** The best cost the executor reports after an iteration is never
above the one it reported before (`¬ old < new`; for non-NaN values this is `new ≤ old`). -/
theorem step_best_monotone (L : OrdLaws o Num) (hn : 0 < n) (hc : CostSpec cost Num n cs) (st st' : State α)
    (hinv : Inv cost Num n st) (h : step o cost st = .ok st') :
    o.lt st.bestCost st'.bestCost = false ∧ Inv cost Num n st' :=
  let ⟨h1, h2, _⟩ := (step_cases L hn hc hinv).of_ok h; ⟨h2, h1⟩

theorem loop_cases (L : OrdLaws o Num) (hn : 0 < n) (hc : CostSpec cost Num n cs) {tol : α} {fuel : Nat}
    {st : State α} (hinv : Inv cost Num n st) :
    Outcome.OkOr (CostPanic cost n cs) (loop o cost tol fuel st) fun st' =>
      Inv cost Num n st' ∧ o.lt st.bestCost st'.bestCost = false ∧ st'.trace.length ≤ st.trace.length + fuel := by
  induction fuel generalizing st with
  | zero => exact .ok ⟨hinv, L.lt_irrefl _ hinv.bestNum, Nat.le_refl _⟩
  | succ fuel ih =>
    unfold loop
    split
    · exact .ok ⟨hinv, L.lt_irrefl _ hinv.bestNum, Nat.le_add_right _ _⟩
    · exact (step_cases L hn hc hinv).bind fun st1 ⟨h1, m1, l1⟩ => (ih h1).mono
        (fun st2 ⟨h2, m2, l2⟩ =>
          ⟨h2, L.lt_negtrans _ _ _ hinv.bestNum h1.bestNum h2.bestNum m1 m2, by omega⟩) fun _ => id

/-- **(b)** Along the whole executor loop (any number of remaining iterations) the
reported best cost at the end is never above the one at the start; `step_best_monotone` is the
single-iteration version, and the invariant is preserved. -/
theorem nm_best_monotone (L : OrdLaws o Num) (hn : 0 < n) (hc : CostSpec cost Num n cs) (tol : α) (fuel : Nat)
    (st st' : State α) (hinv : Inv cost Num n st) (h : loop o cost tol fuel st = .ok st') :
    o.lt st.bestCost st'.bestCost = false ∧ Inv cost Num n st' ∧ st'.trace.length ≤ st.trace.length + fuel :=
  let ⟨h1, h2, h3⟩ := (loop_cases L hn hc hinv).of_ok h; ⟨h2, h1, h3⟩

theorem evalAll_cases (hc : CostSpec cost Num n cs) {ps : List (List α)} (hps : ∀ p ∈ ps, p.length = n) :
    Outcome.OkOr (CostPanic cost n cs) (evalAll cost ps) fun vs =>
      vs.map Prod.fst = ps ∧ ∀ v ∈ vs, VOk cost Num n v := by
  induction ps with
  | nil => exact .ok ⟨rfl, nofun⟩
  | cons p ps ih =>
    exact (cost_okOr hc (hps p (by simp))).bind fun c hpc => (ih fun q hq => hps q (by simp [hq])).bind
      fun vs hvs => .ok ⟨congrArg (p :: ·) hvs.1, List.forall_mem_cons.2 ⟨hpc, hvs.2⟩⟩

theorem accepts_inf (L : OrdLaws o Num) (c : α) (hc : Num c) : accepts o c o.inf = true := by
  unfold accepts
  rcases L.accept_inf c hc with h | ⟨h1, h2, h3⟩
  · simp [h]
  · simp [h1, h2, h3]

theorem init_cases (L : OrdLaws o Num) (hc : CostSpec cost Num n cs) {simplex : List (List α)}
    (hlen : simplex.length = n + 1) (hdim : ∀ p ∈ simplex, p.length = n) :
    Outcome.OkOr (CostPanic cost n cs) (init o cost simplex) fun st0 => Inv cost Num n st0 ∧ st0.trace = [] ∧
      ∀ x ∈ simplex, ∃ cx, cost x = .ok cx ∧ Num cx ∧ o.lt cx st0.bestCost = false := by
  refine (evalAll_cases hc hdim).bind fun vs ⟨hmap, hvs⟩ => ?_
  have hs : Simplex cost Num n vs := ⟨by rw [← hlen, ← hmap, List.length_map], hvs⟩
  match vs, hs with
  | v0 :: rest, hs =>
    refine (enter_cases L hs fun m hm _ => ?_).mono (fun st0 ⟨hi, ht, hle⟩ => ⟨hi, ht, fun x hx => ?_⟩)
      fun _ => id
    · unfold update
      rw [accepts_inf L _ (hs.vertex m hm).num, if_pos rfl]
    · obtain ⟨v, hv, rfl⟩ := List.mem_map.1 (hmap ▸ hx)
      exact ⟨v.2, (hs.vertex v hv).eval, (hs.vertex v hv).num, hle v hv⟩

/-- `with_sd_tolerance(tol).unwrap()` fires when `tol < 0`, before anything is evaluated (for `tol ≥ 0`
see `nm_cases`: the only panic is the cost function's). -/
theorem run_sdTol_iff (tol : α) (N : Nat) (simplex : List (List α)) (h : o.lt tol o.zero = true) :
    run o cost tol N simplex = .panic siteSdTol := by
  unfold run; rw [if_pos h]

theorem run_cases (L : OrdLaws o Num) (hn : 0 < n) (hc : CostSpec cost Num n cs) {tol : α}
    (htol : o.lt tol o.zero = false) {N : Nat} {simplex : List (List α)}
    (hlen : simplex.length = n + 1) (hdim : ∀ p ∈ simplex, p.length = n) :
    Outcome.OkOr (CostPanic cost n cs) (run o cost tol N simplex) fun st => Inv cost Num n st ∧ st.trace.length ≤ N ∧
      ∀ x ∈ simplex, ∃ cx, cost x = .ok cx ∧ Num cx ∧ o.lt cx st.bestCost = false := by
  unfold run
  rw [htol, if_neg Bool.false_ne_true]
  exact (init_cases L hc hlen hdim).bind fun st0 ⟨hinv0, htr0, hle0⟩ =>
    (loop_cases L hn hc hinv0).mono (fun st ⟨hinv, hmono, hlenT⟩ =>
      ⟨hinv, by simpa [htr0] using hlenT, fun x hx =>
        let ⟨cx, h2, h3, h4⟩ := hle0 x hx
        ⟨cx, h2, h3, L.lt_negtrans _ _ _ h3 hinv0.bestNum hinv.bestNum h4 hmono⟩⟩) fun _ => id

/-- **The solver, end to end** (`NelderMead::new(simplex).with_sd_tolerance(tol)`, executor with
`max_iters = N`). For a simplex of `n + 1` vertices of dimension `n ≥ 1`, `tol ≥ 0`, and a cost function
that returns non-NaN values or panics at `cs`: either the run returns a state satisfying the invariant
after at most `N` iterations, whose best cost is `≤` the cost of every initial vertex — or a cost
evaluation panicked at `cs`. No other site is reachable. -/
theorem nm_cases (L : OrdLaws o Num) (hn : 0 < n) (hc : CostSpec cost Num n cs) (tol : α)
    (htol : o.lt tol o.zero = false) (N : Nat) (simplex : List (List α))
    (hlen : simplex.length = n + 1) (hdim : ∀ p ∈ simplex, p.length = n) :
    (∃ st, run o cost tol N simplex = .ok st ∧ Inv cost Num n st ∧ st.trace.length ≤ N ∧
        ∀ x ∈ simplex, ∃ cx, cost x = .ok cx ∧ Num cx ∧ o.lt cx st.bestCost = false) ∨
    (run o cost tol N simplex = .panic cs ∧ ∃ x, x.length = n ∧ cost x = .panic cs) :=
  (run_cases L hn hc htol hlen hdim).cases.imp_right fun ⟨_, hs, h, hx⟩ => ⟨h ▸ hs, hx⟩

/-- **(a)** The executor performs at most `max_iters` iterations (the model's
loop is structurally recursive on `max_iters`, so it terminates by construction; `trace` counts the
`next_iter` calls), and the simplex it ends with — as every intermediate one, `Inv.shape` is the loop
invariant — has `n + 1` vertices of dimension `n`. -/
theorem nm_terminates_shape (L : OrdLaws o Num) (hn : 0 < n) (hc : CostSpec cost Num n cs) (tol : α)
    (htol : o.lt tol o.zero = false) (N : Nat) (simplex : List (List α))
    (hlen : simplex.length = n + 1) (hdim : ∀ p ∈ simplex, p.length = n) (st : State α)
    (h : run o cost tol N simplex = .ok st) :
    st.trace.length ≤ N ∧ st.simplex.length = n + 1 ∧ ∀ v ∈ st.simplex, v.1.length = n :=
  let ⟨hinv, hl, _⟩ := (run_cases L hn hc htol hlen hdim).of_ok h; ⟨hl, hinv.shape⟩

/-- **(a)** The first conjunct of `nm_terminates_shape`. -/
theorem nm_terminates (L : OrdLaws o Num) (hn : 0 < n) (hc : CostSpec cost Num n cs) (tol : α)
    (htol : o.lt tol o.zero = false) (N : Nat) (simplex : List (List α))
    (hlen : simplex.length = n + 1) (hdim : ∀ p ∈ simplex, p.length = n) (st : State α)
    (h : run o cost tol N simplex = .ok st) : st.trace.length ≤ N :=
  (nm_terminates_shape L hn hc tol htol N simplex hlen hdim st h).1

theorem minimize_cases (L : OrdLaws o Num) (hn : 0 < n) (hc : CostSpec cost Num n cs) {tol : α}
    (htol : o.lt tol o.zero = false) {N : Nat} {simplex : List (List α)}
    (hlen : simplex.length = n + 1) (hdim : ∀ p ∈ simplex, p.length = n) :
    Outcome.OkOr (CostPanic cost n cs) (minimize o cost tol N simplex) fun p => p.length = n ∧ ∃ c, cost p = .ok c ∧ Num c ∧
      ∀ x ∈ simplex, ∃ cx, cost x = .ok cx ∧ o.lt cx c = false := by
  refine (run_cases L hn hc htol hlen hdim).bind fun st ⟨hinv, _, hle⟩ => ?_
  obtain ⟨v, hv, hbp, hbc⟩ := hinv.best
  have hv := hinv.simplex.vertex v (List.mem_of_mem_head? hv)
  rw [hbp]
  exact .ok ⟨hv.dim, v.2, hv.eval, hv.num, fun x hx => let ⟨cx, h1, _, h2⟩ := hle x hx; ⟨cx, h1, hbc ▸ h2⟩⟩

/-- The minimiser on a cost function that, on vectors of dimension `n`, returns a value or panics at `cs`
with a witness `W x`, and whose values are `Num`: what both fits call. -/
theorem minimize_of_okOr {W : List α → Prop} (L : OrdLaws o Num) (hn : 0 < n)
    (hcost : ∀ x, x.length = n → Outcome.OkOr (fun s => s = cs ∧ W x) (cost x) fun _ => True)
    (hnum : ∀ x c, cost x = .ok c → Num c) {tol : α} (htol : o.lt tol o.zero = false) {N : Nat}
    {simplex : List (List α)} (hlen : simplex.length = n + 1) (hdim : ∀ p ∈ simplex, p.length = n) :
    Outcome.OkOr (fun s => s = cs ∧ ∃ x, x.length = n ∧ W x) (minimize o cost tol N simplex) fun p =>
      p.length = n ∧ ∃ c, cost p = .ok c ∧ ∀ x ∈ simplex, ∃ cx, cost x = .ok cx ∧ o.lt cx c = false :=
  have hc : CostSpec cost Num n cs := fun x hx =>
    (hcost x hx).cases.imp (fun ⟨c, h, _⟩ => ⟨c, h, hnum x c h⟩) fun ⟨_, h, hs, _⟩ => hs ▸ h
  (minimize_cases L hn hc htol hlen hdim).mono (fun _ ⟨h1, c, h2, _, h3⟩ => ⟨h1, c, h2, h3⟩)
    fun _ ⟨hs, x, hx, hp⟩ => ⟨hs, x, hx, ((hcost x hx).of_panic hp).2⟩

/-- **(b)** The parameter vector the fits read out of the executor
(`res.state.best_param.unwrap()`) is a point at which the cost function was evaluated, of the right
dimension, and its cost is not above the cost of any vertex of the initial simplex (in particular of
the initial guess, vertex 0). -/
theorem nm_result_spec (L : OrdLaws o Num) (hn : 0 < n) (hc : CostSpec cost Num n cs) (tol : α)
    (htol : o.lt tol o.zero = false) (N : Nat) (simplex : List (List α))
    (hlen : simplex.length = n + 1) (hdim : ∀ p ∈ simplex, p.length = n) (p : List α)
    (h : minimize o cost tol N simplex = .ok p) :
    p.length = n ∧ ∃ c, cost p = .ok c ∧ Num c ∧
      ∀ x ∈ simplex, ∃ cx, cost x = .ok cx ∧ o.lt cx c = false :=
  (minimize_cases L hn hc htol hlen hdim).of_ok h

/-- **(c)** If the cost function returns a non-NaN value on every vector
of dimension `n`, the solver returns normally: no index, `unwrap`, argmin-math assert or "unreachable
point" site can fire. -/
theorem nm_no_panic_of_total_cost (L : OrdLaws o Num) (hn : 0 < n)
    (htotal : ∀ x, x.length = n → ∃ c, cost x = .ok c ∧ Num c) (tol : α)
    (htol : o.lt tol o.zero = false) (N : Nat) (simplex : List (List α))
    (hlen : simplex.length = n + 1) (hdim : ∀ p ∈ simplex, p.length = n) :
    ∃ p, minimize o cost tol N simplex = .ok p :=
  (minimize_cases (cs := "") L hn (fun x hx => .inl (htotal x hx)) htol hlen hdim).total
    fun _ ⟨_, x, hx, hp⟩ => let ⟨_, hcx, _⟩ := htotal x hx; nomatch hcx.symm.trans hp

/-- **(c)** Whatever happens, the solver never returns `Err`, and it panics only
with the cost function's own site — and then the cost function did panic on some vector of dimension
`n`. -/
theorem nm_panic_only_cost (L : OrdLaws o Num) (hn : 0 < n) (hc : CostSpec cost Num n cs) (tol : α)
    (htol : o.lt tol o.zero = false) (N : Nat) (simplex : List (List α))
    (hlen : simplex.length = n + 1) (hdim : ∀ p ∈ simplex, p.length = n) :
    (∀ e, minimize o cost tol N simplex ≠ .err e) ∧
    ∀ s, minimize o cost tol N simplex = .panic s → s = cs ∧ ∃ x, x.length = n ∧ cost x = .panic cs :=
  have h := minimize_cases L hn hc htol hlen hdim
  ⟨fun _ => h.ne_err, fun _ => h.of_panic⟩

/-- **(d)** At the end of a run `IterState::best_param` is the first
vertex of the solver's sorted simplex and `best_cost` is its cost: because `sort_by` is stable and
`update` uses a strict `<`, a later vertex with the *same* cost never displaces the recorded best. -/
theorem best_param_is_first_vertex (L : OrdLaws o Num) (hn : 0 < n) (hc : CostSpec cost Num n cs) (tol : α)
    (htol : o.lt tol o.zero = false) (N : Nat) (simplex : List (List α))
    (hlen : simplex.length = n + 1) (hdim : ∀ p ∈ simplex, p.length = n) (st : State α)
    (h : run o cost tol N simplex = .ok st) :
    ∃ v, st.simplex.head? = some v ∧ st.bestParam = some v.1 ∧ st.bestCost = v.2 :=
  ((run_cases L hn hc htol hlen hdim).of_ok h).1.best

/-- **(d)** `shrink` never touches the first (best) vertex — no assumption at all. -/
theorem shrink_keeps_best (s s' : List (Vertex α)) (h : shrink o cost s = .ok s') : s'.head? = s.head? := by
  match s, h with
  | v0 :: vs, h =>
    simp only [shrink] at h
    obtain ⟨r, _, hr⟩ := bind_eq_ok.1 h
    cases hr
    rfl

end Solver

section Fits
variable {α : Type} (o : FOps α) {Num : α → Prop}

theorem sumChecked_cases {ε ι : Type} {site : String} {f : ι → α} {l : List ι} {acc : α} :
    Outcome.OkOr (fun s => s = site ∧ ∃ i ∈ l, o.isNaN (f i) = true) (sumChecked (ε := ε) o site acc (l.map f))
      fun _ => True := by
  induction l generalizing acc with
  | nil => exact .ok trivial
  | cons i l ih =>
    rw [List.map_cons]
    unfold sumChecked
    split
    · exact .panic ⟨rfl, i, List.mem_cons_self, ‹_›⟩
    · exact ih.mono (fun _ => id) fun _ ⟨hs, j, hj, hn⟩ => ⟨hs, j, List.mem_cons_of_mem _ hj, hn⟩

theorem trackCost_cases (ctTol : α) (ctIters : Nat) (pts : List (Point α)) (x : List α) (hx : x.length = 6) :
    Outcome.OkOr (fun s => s = siteTrackNaN ∧ ∃ pt ∈ pts, o.isNaN (distSq o ctTol ctIters (paramsOf o x) pt) = true)
      (trackCost (ε := FitError) o ctTol ctIters pts x) fun _ => True := by
  unfold trackCost
  rw [if_neg (by omega)]
  exact sumChecked_cases o

theorem vertexCost_cases (ctTol : α) (ctIters : Nat) (tracks : List (TrackP α)) (x : List α) (hx : x.length = 3) :
    Outcome.OkOr (fun s => s = siteVertexNaN ∧ ∃ t ∈ tracks, o.isNaN (distSq o ctTol ctIters t.q (vertexPoint o x)) = true)
      (vertexCost (ε := Unit) o ctTol ctIters tracks x) fun _ => True := by
  unfold vertexCost
  rw [if_neg (by omega)]
  exact sumChecked_cases o

variable {o}

theorem fitCluster_of_init {N : Nat} {sdTol delta : α} {ctIters : Nat} {ctTol : α} {pts : List (Point α)}
    {simplex : List (List α)} {f m l : Point α}
    (hinit : fitInit o.t delta pts = .ok simplex) (htpl : threeTemplatePoints o.t pts = .ok (f, m, l)) :
    fitCluster o N sdTol delta ctIters ctTol pts =
      (minimize o.n (trackCost o ctTol ctIters pts) sdTol N simplex).bind fun best =>
        if best.length < 6 then .panic siteBestIndex
        else .ok ⟨paramsOf o best, closestT o.t.h (paramsOf o best) f ctTol ctIters,
                  closestT o.t.h (paramsOf o best) l ctTol ctIters⟩ := by
  unfold fitCluster
  rw [hinit]
  simp only [htpl]

/-- The fit is its initial-guess stage followed by itself: errors and panics of the stage pass through. -/
theorem fitCluster_eq_bind (N : Nat) (sdTol delta : α) (ctIters : Nat) (ctTol : α) (pts : List (Point α)) :
    fitCluster o N sdTol delta ctIters ctTol pts =
      (fitInit o.t delta pts).bind fun _ => fitCluster o N sdTol delta ctIters ctTol pts := by
  cases h : fitInit o.t delta pts <;> simp only [fitCluster, h, bind_ok', bind_err', bind_panic']

/-- **The track fit after the initial guess**: it returns a track whose helix is a 6-vector at which
the cost function was evaluated, with cost `≤` the cost at every vertex of the initial simplex, and
`t_inner`/`t_outer` are `closest_t` of the first/last template point — or the NaN assert of the cost
function fired inside the minimiser, with a NaN squared distance as witness. -/
theorem fit_cases (L : OrdLaws o.n Num) (N : Nat) (sdTol delta : α) (ctIters : Nat) (ctTol : α)
    (pts : List (Point α))
    (hnum : ∀ x c, trackCost (ε := FitError) o ctTol ctIters pts x = .ok c → Num c)
    (htol : o.n.lt sdTol o.n.zero = false) (simplex : List (List α))
    (hinit : fitInit o.t delta pts = .ok simplex) :
    Outcome.OkOr (fun s => s = siteTrackNaN ∧
        minimize o.n (trackCost (ε := FitError) o ctTol ctIters pts) sdTol N simplex = .panic siteTrackNaN ∧
        ∃ x, x.length = 6 ∧ ∃ pt ∈ pts, o.isNaN (distSq o ctTol ctIters (paramsOf o x) pt) = true)
      (fitCluster o N sdTol delta ctIters ctTol pts) fun trk => ∃ best c f m l,
        trk = ⟨paramsOf o best, closestT o.t.h (paramsOf o best) f ctTol ctIters,
                closestT o.t.h (paramsOf o best) l ctTol ctIters⟩ ∧
        threeTemplatePoints o.t pts = .ok (f, m, l) ∧ best.length = 6 ∧
        trackCost (ε := FitError) o ctTol ctIters pts best = .ok c ∧
        ∀ x ∈ simplex, ∃ cx, trackCost (ε := FitError) o ctTol ctIters pts x = .ok cx ∧ o.n.lt cx c = false := by
  obtain ⟨hlen, hdim, f, m, l, htpl, _⟩ := AlphaG.C14b.fit_simplex_shape o.t delta pts simplex hinit
  rw [fitCluster_of_init hinit htpl]
  refine ((minimize_of_okOr L (by omega : 0 < 6) (trackCost_cases o ctTol ctIters pts) hnum htol hlen hdim).and_panic_eq.mono
    (fun _ => id) fun _ ⟨he, hs, hw⟩ => ⟨hs, hs ▸ he, hw⟩).bind fun p ⟨h2, c, h3, h4⟩ => ?_
  rw [if_neg (by omega)]
  exact .ok ⟨p, c, f, m, l, rfl, htpl, h2, h3, h4⟩

/-- **(c)** `Track::try_from(Cluster)` (model `fitCluster`) panics exactly when the
initial-guess stage panics (see `fit_init_panic_sites`: fewer than three points, or a NaN radius
deviation in `partial_cmp(..).unwrap()`), or — the initial-guess stage having succeeded — at the
`assert!(!val.is_nan())` of the cost function. Nothing inside argmin can panic. -/
theorem fit_panic_iff (L : OrdLaws o.n Num) (N : Nat) (sdTol delta : α) (ctIters : Nat) (ctTol : α)
    (pts : List (Point α))
    (hnum : ∀ x c, trackCost (ε := FitError) o ctTol ctIters pts x = .ok c → Num c)
    (htol : o.n.lt sdTol o.n.zero = false) (s : String) :
    fitCluster o N sdTol delta ctIters ctTol pts = .panic s ↔
      fitInit o.t delta pts = .panic s ∨
      (s = siteTrackNaN ∧ ∃ simplex, fitInit o.t delta pts = .ok simplex ∧
        minimize o.n (trackCost (ε := FitError) o ctTol ctIters pts) sdTol N simplex = .panic siteTrackNaN ∧
        ∃ x, x.length = 6 ∧ ∃ pt ∈ pts, o.isNaN (distSq o ctTol ctIters (paramsOf o x) pt) = true) := by
  rw [fitCluster_eq_bind, bind_eq_panic]
  refine or_congr_right ⟨fun ⟨simplex, hinit, h⟩ => ?_, fun ⟨hs, simplex, hinit, hm, _⟩ => ⟨simplex, hinit, ?_⟩⟩
  · obtain ⟨hs, hm, hx⟩ := (fit_cases L N sdTol delta ctIters ctTol pts hnum htol simplex hinit).of_panic h
    exact ⟨hs, simplex, hinit, hm, hx⟩
  · obtain ⟨_, _, f, m, l, htpl, _⟩ := AlphaG.C14b.fit_simplex_shape o.t delta pts simplex hinit
    rw [fitCluster_of_init hinit htpl, hm, hs]; rfl

/-- **(c)** `fit_panic_iff` with the initial-guess stage spelled out by
`C14b.fit_init_panic_sites` — the complete panic inventory of `Track::try_from(Cluster)`:
(1) `assert!(sp.len() >= 3)`, (2) `partial_cmp(..).unwrap()` on a NaN radius deviation,
(3) `assert!(!val.is_nan())` in the cost function. -/
theorem fit_panic_iff_full (L : OrdLaws o.n Num) (nan : α → Prop)
    (hcmp : ∀ a b, o.t.cmp a b = none ↔ nan a ∨ nan b)
    (N : Nat) (sdTol delta : α) (ctIters : Nat) (ctTol : α) (pts : List (Point α))
    (hnum : ∀ x c, trackCost (ε := FitError) o ctTol ctIters pts x = .ok c → Num c)
    (htol : o.n.lt sdTol o.n.zero = false) (s : String) :
    fitCluster o N sdTol delta ctIters ctTol pts = .panic s ↔
      (pts.length < 3 ∧ s = siteAssertLen) ∨
      (3 ≤ pts.length ∧ s = sitePartialCmp ∧
        ∃ f l, (minmaxByKey o.t.h.lt (fun p : Point α => p.r) pts).intoOption = some (f, l) ∧
          ∃ p ∈ pts, nan (devFrom o.t (midR o.t f l) p)) ∨
      (s = siteTrackNaN ∧ ∃ simplex, fitInit o.t delta pts = .ok simplex ∧
        minimize o.n (trackCost (ε := FitError) o ctTol ctIters pts) sdTol N simplex = .panic siteTrackNaN ∧
        ∃ x, x.length = 6 ∧ ∃ pt ∈ pts, o.isNaN (distSq o ctTol ctIters (paramsOf o x) pt) = true) := by
  rw [fit_panic_iff L N sdTol delta ctIters ctTol pts hnum htol s,
    AlphaG.C14b.fit_init_panic_sites o.t nan hcmp delta pts s, or_assoc]

/-- **(c) corollary.** If no squared distance is ever NaN (any 6-vector, any point of the cluster),
the fit panics exactly when its initial-guess stage does. -/
theorem fit_no_panic_of_no_nan (L : OrdLaws o.n Num) (N : Nat) (sdTol delta : α) (ctIters : Nat) (ctTol : α)
    (pts : List (Point α))
    (hnum : ∀ x c, trackCost (ε := FitError) o ctTol ctIters pts x = .ok c → Num c)
    (htol : o.n.lt sdTol o.n.zero = false)
    (hnn : ∀ x : List α, x.length = 6 → ∀ pt ∈ pts, o.isNaN (distSq o ctTol ctIters (paramsOf o x) pt) = false)
    (s : String) :
    fitCluster o N sdTol delta ctIters ctTol pts = .panic s ↔ fitInit o.t delta pts = .panic s := by
  rw [fit_panic_iff L N sdTol delta ctIters ctTol pts hnum htol s]
  constructor
  · rintro (h | ⟨_, _, _, _, x, hx, pt, hpt, hn⟩)
    · exact h
    · rw [hnn x hx pt hpt] at hn; cases hn
  · exact Or.inl

/-- **(d)** A returned track: its six helix parameters are a vector at which the cost
function was evaluated, with cost not above the cost at the initial guess and at the six perturbed
guesses; `t_inner`, `t_outer` are `closest_t` of the template points of smallest / largest radius. -/
theorem fit_ok_spec (L : OrdLaws o.n Num) (N : Nat) (sdTol delta : α) (ctIters : Nat) (ctTol : α)
    (pts : List (Point α))
    (hnum : ∀ x c, trackCost (ε := FitError) o ctTol ctIters pts x = .ok c → Num c)
    (htol : o.n.lt sdTol o.n.zero = false) (trk : TrackP α)
    (h : fitCluster o N sdTol delta ctIters ctTol pts = .ok trk) :
    ∃ simplex best c f m l, fitInit o.t delta pts = .ok simplex ∧
      threeTemplatePoints o.t pts = .ok (f, m, l) ∧ best.length = 6 ∧ trk.q = paramsOf o best ∧
      trk.tInner = closestT o.t.h trk.q f ctTol ctIters ∧ trk.tOuter = closestT o.t.h trk.q l ctTol ctIters ∧
      trackCost (ε := FitError) o ctTol ctIters pts best = .ok c ∧
      ∀ x ∈ simplex, ∃ cx, trackCost (ε := FitError) o ctTol ctIters pts x = .ok cx ∧ o.n.lt cx c = false := by
  rw [fitCluster_eq_bind] at h
  obtain ⟨simplex, hinit, h⟩ := bind_eq_ok.1 h
  obtain ⟨best, c, f, m, l, rfl, h2, h3, h4, h5⟩ :=
    (fit_cases L N sdTol delta ctIters ctTol pts hnum htol simplex hinit).of_ok h
  exact ⟨simplex, best, c, f, m, l, hinit, h2, h3, rfl, rfl, rfl, h4, h5⟩

/-- **The minimiser call of `find_vertices`** on a 4 × 3 simplex: the position is a 3-vector at which the
cost function was evaluated, with cost `≤` the cost at every vertex of the simplex, and there is one
`closest_t` per track — or the NaN assert of the vertex cost function fired, with a NaN squared distance
as witness. -/
theorem fitVertex_cases (L : OrdLaws o.n Num) (N : Nat) (sdTol : α) (ctIters : Nat) (ctTol : α)
    (tracks : List (TrackP α))
    (hnum : ∀ x c, vertexCost (ε := Unit) o ctTol ctIters tracks x = .ok c → Num c)
    (htol : o.n.lt sdTol o.n.zero = false) (simplex : List (List α))
    (hlen : simplex.length = 4) (hdim : ∀ row ∈ simplex, row.length = 3) :
    Outcome.OkOr (fun s => s = siteVertexNaN ∧
        ∃ x, x.length = 3 ∧ ∃ t ∈ tracks, o.isNaN (distSq o ctTol ctIters t.q (vertexPoint o x)) = true)
      (fitVertex o N sdTol ctIters ctTol tracks simplex) fun r => ∃ best c,
        r = ((best.getD 0 o.t.h.zero, best.getD 1 o.t.h.zero, best.getD 2 o.t.h.zero),
             tracks.map fun t => closestT o.t.h t.q (vertexPoint o best) ctTol ctIters) ∧
        best.length = 3 ∧ vertexCost (ε := Unit) o ctTol ctIters tracks best = .ok c ∧
        ∀ x ∈ simplex, ∃ cx, vertexCost (ε := Unit) o ctTol ctIters tracks x = .ok cx ∧ o.n.lt cx c = false := by
  refine (minimize_of_okOr L (by omega : 0 < 3) (vertexCost_cases o ctTol ctIters tracks) hnum htol hlen hdim).bind
    fun p ⟨h2, c, h3, h4⟩ => ?_
  rw [if_neg (by omega)]
  exact .ok ⟨p, c, rfl, h2, h3, h4⟩

/-- **(c)** `find_vertices` up to the fitted vertex panics only where its
selection stage (`vertexInit`, C14b/C15: the two `partial_cmp(..).unwrap()`) panics, or at the
`assert!(!val.is_nan())` of the vertex cost function; a fitted vertex carries one `t` per track of the
chosen cluster. -/
theorem vertex_fit_panic_sites (L : OrdLaws o.n Num) (minLen maxDca maxDist delta : α) (ctIters : Nat) (ctTol : α)
    (N : Nat) (sdTol : α) (ts : Array (TrackP α)) (d : TrackP α)
    (hnum : ∀ tracks x c, vertexCost (ε := Unit) o ctTol ctIters tracks x = .ok c → Num c)
    (htol : o.n.lt sdTol o.n.zero = false) :
    (∀ s, findVertexFit o minLen maxDca maxDist delta ctIters ctTol N sdTol ts d = .panic s →
      vertexInit o.t minLen maxDca maxDist delta ts d = .panic s ∨ s = siteVertexNaN) ∧
    (∀ v, findVertexFit o minLen maxDca maxDist delta ctIters ctTol N sdTol ts d = .ok (some v) →
      v.ts.length = v.cluster.length ∧
      ∃ simplex, vertexInit o.t minLen maxDca maxDist delta ts d = .ok (some (v.cluster, simplex))) := by
  unfold findVertexFit
  cases hinit : vertexInit o.t minLen maxDca maxDist delta ts d with
  | ok r =>
    match r, hinit with
    | none, _ => exact ⟨nofun, nofun⟩
    | some (c, simplex), hinit =>
      obtain ⟨hlen, hdim⟩ := AlphaG.C14b.vertexInit_shape o.t minLen maxDca maxDist delta ts d c simplex hinit
      have hf := fitVertex_cases L N sdTol ctIters ctTol (c.map fun i => ts.getD i d) (hnum _) htol simplex hlen hdim
      dsimp only
      refine ⟨fun s h => ?_, fun v h => ?_⟩
      · rcases bind_eq_panic.1 h with h | ⟨_, _, h⟩
        · exact .inr (hf.of_panic h).1
        · cases h
      · obtain ⟨r, hr, h⟩ := bind_eq_ok.1 h
        obtain ⟨best, _, rfl, _⟩ := hf.of_ok hr
        cases h
        exact ⟨by simp, simplex, rfl⟩
  | err e => exact ⟨nofun, nofun⟩
  | panic s0 => exact ⟨fun s h => by cases h; exact .inl rfl, nofun⟩

end Fits

/-! ## Non-vacuity: a concrete carrier with `±inf` and NaN over ℚ -/

section Examples

/-- Rationals extended by `+inf`, `-inf` and a NaN. Comparisons follow IEEE (everything involving the
NaN is false). Arithmetic is exact on finite values; any operation involving a non-finite value, and a
division by zero, gives the NaN (a convention: no theorem above assumes anything about arithmetic). -/
inductive XRat where
  | fin (q : ℚ)
  | pinf
  | ninf
  | nan
deriving DecidableEq

namespace XRat
def lt : XRat → XRat → Bool
  | .nan, _ => false
  | _, .nan => false
  | .ninf, .ninf => false
  | .ninf, _ => true
  | .fin _, .ninf => false
  | .fin a, .fin b => decide (a < b)
  | .fin _, .pinf => true
  | .pinf, _ => false
def le (a b : XRat) : Bool :=
  match a, b with
  | .nan, _ => false
  | _, .nan => false
  | a, b => !(lt b a)
def lift1 (f : ℚ → ℚ) : XRat → XRat
  | .fin a => .fin (f a)
  | _ => .nan
def lift2 (f : ℚ → ℚ → ℚ) : XRat → XRat → XRat
  | .fin a, .fin b => .fin (f a b)
  | _, _ => .nan
def div : XRat → XRat → XRat
  | .fin a, .fin b => if b = 0 then .nan else .fin (a / b)
  | _, _ => .nan
end XRat
open XRat

/-- The stand-ins of `C14b.qT` for the transcendental functions (`cos φ = φ`, `sin φ = φ²`, …). -/
def xH : HOps XRat where
  add := lift2 (· + ·)
  sub := lift2 (· - ·)
  mul := lift2 (· * ·)
  div := XRat.div
  neg := lift1 (fun x => -x)
  abs := lift1 (fun x => |x|)
  lt := XRat.lt
  sin := lift1 (fun x => x * x)
  cos := lift1 (fun x => x)
  atan2 := lift2 (fun y _ => y)
  hypot := lift2 (fun x y => x + y)
  floor := lift1 (fun x => x)
  zero := .fin 0
  one := .fin 1
  two := .fin 2
  four := .fin 4
  pi := .fin 3
  eps := .fin (1 / 1000)

def xT : TOps XRat where
  h := xH
  eq := fun a b => match a, b with | .nan, _ => false | _, .nan => false | a, b => decide (a = b)
  cmp := fun a b => match a, b with
    | .nan, _ => none | _, .nan => none
    | a, b => if XRat.lt a b then some .lt else if XRat.lt b a then some .gt else some .eq
  ofNat := fun n => .fin n
  negZero := .fin 0
  simplexDefault := .fin (1 / 4000)

/-- `sqrt` is the identity here (the termination test then compares the variance with the tolerance);
no theorem depends on it. -/
def xF : FOps XRat where
  t := xT
  sqrt := id
  le := XRat.le
  isInf := fun x => decide (x = .pinf ∨ x = .ninf)
  signPos := fun x => match x with | .ninf => false | .fin q => decide (0 ≤ q) | _ => true
  isNaN := fun x => decide (x = .nan)
  half := .fin (1 / 2)
  inf := .pinf
  negInf := .ninf

/-- The order laws hold on `XRat` with `Num x := x ≠ nan` — exactly the IEEE situation. -/
theorem xLaws : OrdLaws xF.n (fun x => x ≠ XRat.nan) where
  -- each law is stated on `XRat.lt` / `XRat.le` (the projections of `xF.n` reduce to them), so that the
  -- case analysis never carries the structure literals `xF xT xH`: with them it is 25 times as slow
  lt_irrefl a _ := show XRat.lt a a = false by cases a <;> simp [XRat.lt]
  lt_trans a b c _ _ _ := show XRat.lt a b = true → XRat.lt b c = true → XRat.lt a c = true by
    intro h1 h2
    -- `a < b` fails for twelve of the sixteen pairs of constructors: they go before `c` is split
    cases a <;> cases b <;> simp [XRat.lt] at h1 <;> cases c <;> simp_all [XRat.lt]
    exact lt_trans h1 h2
  lt_negtrans a b c ha hb hc := show XRat.lt a b = false → XRat.lt b c = false → XRat.lt a c = false by
    intro h1 h2
    -- likewise `a < c` is false outright for twelve pairs
    cases a <;> cases c <;> simp [XRat.lt] <;> cases b <;> simp_all [XRat.lt]
    exact le_trans h2 h1
  le_iff a b ha hb := show XRat.le a b = true ↔ XRat.lt b a = false by
    cases a <;> cases b <;> simp_all [XRat.lt, XRat.le]
  inf_num := nofun
  accept_inf c hc := by
    cases c with
    | nan => exact absurd rfl hc
    | pinf => exact .inr ⟨rfl, rfl, rfl⟩
    | _ => exact .inl rfl
  same_inf a b _ _ ha hb := by
    -- `isInf x` is `decide (x = pinf ∨ x = ninf)`: four closed instances are left
    rcases of_decide_eq_true ha with rfl | rfl <;> rcases of_decide_eq_true hb with rfl | rfl <;> decide

/-- `(x - 1)² + (y - 2)²` (total; `+inf` off the finite plane). -/
def cost2 (p : List XRat) : Outcome Unit XRat :=
  match p with
  | [.fin x, .fin y] => .ok (.fin ((x - 1) * (x - 1) + (y - 2) * (y - 2)))
  | _ => .ok .pinf

theorem cost2_total : ∀ x : List XRat, x.length = 2 → ∃ c, cost2 x = .ok c ∧ c ≠ XRat.nan := by
  intro x _
  unfold cost2
  split <;> exact ⟨_, rfl, nofun⟩

/-- The simplex `(0,0), (1,0), (0,1)`. -/
def sx0 : List (List XRat) := [[.fin 0, .fin 0], [.fin 1, .fin 0], [.fin 0, .fin 1]]

def traceOf {ε : Type} (r : Outcome ε (State XRat)) : List Action :=
  match r with
  | .ok st => st.trace
  | _ => []
def bestCostOf {ε : Type} (r : Outcome ε (State XRat)) : Option XRat :=
  match r with
  | .ok st => some st.bestCost
  | _ => none

/-- Three iterations from `(0,0), (1,0), (0,1)`: expansion to `(3/2, 3/2)` (cost 1/2), a reflection and an
inside contraction that do not improve on it; then all three costs are 1/2 and the standard-deviation
test stops the run (`max_iters = 30` is not reached). -/
example : minimize xF.n cost2 (.fin (1 / 1000)) 30 sx0 = .ok [.fin (3 / 2), .fin (3 / 2)] := by decide +kernel
example : traceOf (run xF.n cost2 (.fin (1 / 1000)) 30 sx0) = [.contractionInside, .reflection, .expansion] := by
  decide +kernel
/-- `max_iters` cuts the run short: with `max_iters = 1` only the expansion happens. -/
example : traceOf (run xF.n cost2 (.fin 0) 1 sx0) = [.expansion] := by decide +kernel
/-- The best cost after 0, 1, 3 iterations: `2` (the best initial vertex `(0,1)`), `1/2`, `1/2`. -/
example : bestCostOf (run xF.n cost2 (.fin 0) 0 sx0) = some (.fin 2) ∧
    bestCostOf (run xF.n cost2 (.fin 0) 1 sx0) = some (.fin (1 / 2)) ∧
    bestCostOf (run xF.n cost2 (.fin 0) 3 sx0) = some (.fin (1 / 2)) := by decide +kernel
/-- A larger simplex keeps going: eight iterations, seven contractions inside and one outside. -/
example : traceOf (run xF.n cost2 (.fin 0) 8 [[.fin 0, .fin 0], [.fin 4, .fin 0], [.fin 0, .fin 5]]) =
    [.contractionOutside, .contractionInside, .contractionInside, .contractionInside, .contractionInside,
     .contractionInside, .contractionInside, .contractionInside] := by decide +kernel
/-- A negative tolerance is the `with_sd_tolerance(..).unwrap()` panic. -/
example : minimize xF.n cost2 (.fin (-1)) 30 sx0 = .panic siteSdTol := by decide +kernel
/-- A simplex whose rows do not have dimension `n`: the argmin-math assert fires (so the shape
hypothesis of the theorems is needed). -/
example : minimize xF.n cost2 (.fin 0) 30 [[.fin 0, .fin 0], [.fin 1], [.fin 0, .fin 1]] = .panic siteVecSub := by
  decide +kernel
/-- A NaN cost reaches `Err(PotentialBug "Reached unreachable point")` (so `Num` is needed). -/
example : minimize xF.n (fun p => match p with | [.fin x, .fin y] => if x = 1 ∧ y = 1 then .ok .nan else cost2 p | _ => .ok .pinf)
    (.fin 0) 30 sx0 = .panic siteUnreachable := by decide +kernel
/-- A cost that is NaN at the first vertex after sorting is never accepted by `update`:
`best_param.unwrap()` panics when no iteration is run. -/
example : minimize xF.n (fun _ => (.ok .nan : Outcome Unit XRat)) (.fin 0) 0 sx0 = .panic siteBestParam := by
  decide +kernel

/-- A double well `(x (x - 2))² + y²`: the first iteration from `(0,0), (2,1), (1,0)` is a shrink. -/
def cost3 (p : List XRat) : Outcome Unit XRat :=
  match p with
  | [.fin x, .fin y] => .ok (.fin ((x * (x - 2)) * (x * (x - 2)) + y * y))
  | _ => .ok .pinf
example : traceOf (run xF.n cost3 (.fin 0) 1 [[.fin 0, .fin 0], [.fin 2, .fin 1], [.fin 1, .fin 0]]) = [.shrink] := by
  decide +kernel

/-- The hypotheses of the solver theorems are satisfied by this instance; e.g. `nm_result_spec`: -/
example (p : List XRat) (h : minimize xF.n cost2 (.fin 0) 30 sx0 = .ok p) :
    p.length = 2 ∧ ∃ c, cost2 p = .ok c ∧ c ≠ XRat.nan ∧ ∀ x ∈ sx0, ∃ cx, cost2 x = .ok cx ∧ xF.n.lt cx c = false :=
  nm_result_spec (cs := "") xLaws (by omega) (fun x hx => Or.inl (cost2_total x hx)) (.fin 0) (by decide) 30 sx0
    rfl (by decide) p h
example : ∃ p, minimize xF.n cost2 (.fin 0) 30 sx0 = .ok p :=
  nm_no_panic_of_total_cost xLaws (by omega) cost2_total (.fin 0) (by decide) 30 sx0 rfl (by decide)

/-- The three points of `C14b.exPts`. -/
def exP : List (Point XRat) := [⟨.fin 1, .fin 0, .fin 5⟩, ⟨.fin 2, .fin 1, .fin 7⟩, ⟨.fin 3, .fin (-1), .fin 9⟩]
/-- The same with a NaN `z`: the initial-guess stage does not notice (C14b `fit_init_panic_sites`), the
NaN reaches the simplex and the cost function's assert fires. -/
def exN : List (Point XRat) := [⟨.fin 1, .fin 0, .fin 5⟩, ⟨.fin 2, .fin 1, .nan⟩, ⟨.fin 3, .fin (-1), .fin 9⟩]

def panicSite {ε β : Type} : Outcome ε β → Option String
  | .panic s => some s
  | _ => none
def helixOf {ε : Type} : Outcome ε (TrackP XRat) → Option (List XRat)
  | .ok t => some [t.q.x0, t.q.y0, t.q.z0, t.q.r, t.q.phi0, t.q.h, t.tInner, t.tOuter]
  | _ => none

/-- Three solver iterations on the three points: the perturbed-`z0` vertex wins. -/
example : helixOf (fitCluster xF 3 (.fin 0) (.fin (1 / 20)) 2 (.fin (1 / 1000)) exP) =
    some [.fin (-1 / 2), .fin (5 / 2), .fin (147 / 20), .fin (-2), .fin (-5 / 6), .fin (-4), .fin 3,
      .fin (-2007 / 2120)] := by decide +kernel
example : panicSite (fitCluster xF 3 (.fin 0) (.fin (1 / 20)) 2 (.fin (1 / 1000)) exN) = some siteTrackNaN := by
  decide +kernel
example : panicSite (fitCluster xF 3 (.fin 0) (.fin (1 / 20)) 2 (.fin (1 / 1000)) (exP.take 2)) = some siteAssertLen := by
  decide +kernel

/-- Two tracks and the 4 × 3 simplex `find_vertices` would build for `mean_z = 1/20`. -/
def trA : TrackP XRat := ⟨⟨.fin 1, .fin 0, .fin 0, .fin 1, .fin 0, .fin 2⟩, .fin 0, .fin 1⟩
def trB : TrackP XRat := ⟨⟨.fin 0, .fin 1, .fin (1 / 10), .fin 1, .fin 1, .fin (-1)⟩, .fin 0, .fin 1⟩
def trNaN : TrackP XRat := ⟨⟨.fin 0, .fin 1, .nan, .fin 1, .fin 1, .fin (-1)⟩, .fin 0, .fin 1⟩
def vsx : List (List XRat) := initialSimplex xT (.fin (1 / 20)) (vertexGuess xT (.fin (1 / 20)))
def positionOf {ε : Type} : Outcome ε ((XRat × XRat × XRat) × List XRat) → Option (List XRat)
  | .ok r => some [r.1.1, r.1.2.1, r.1.2.2]
  | _ => none

example : vsx = [[.fin 0, .fin 0, .fin (1 / 20)], [.fin (1 / 4000), .fin 0, .fin (1 / 20)],
    [.fin 0, .fin (1 / 4000), .fin (1 / 20)], [.fin 0, .fin 0, .fin (21 / 400)]] := by decide +kernel
/-- Four solver iterations of the vertex fit move the vertex off the initial guess. -/
example : positionOf (fitVertex xF 4 (.fin 0) 2 (.fin (1 / 1000)) [trA, trB] vsx) =
    some [.fin (-1 / 4000), .fin (1 / 6000), .fin (37 / 600)] := by decide +kernel
example : panicSite (fitVertex xF 4 (.fin 0) 2 (.fin (1 / 1000)) [trA, trNaN] vsx) = some siteVertexNaN := by
  decide +kernel

end Examples

end AlphaG.C14c
