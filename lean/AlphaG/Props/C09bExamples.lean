import AlphaG.Props.C09b
/-
C09b — non-vacuity. A concrete pipeline `xP : Pipe XRat` over the rationals extended by `±inf` and a
NaN (`C14c.XRat`: exact arithmetic on finite values, every operation on a non-finite value and a
division by zero give the NaN; comparisons as in IEEE), for which **all** the named hypotheses
`Laws` are theorems (`xLawsAll`), and concrete events on it:

* `evNaN` — one wire hit, one pad triplet whose Gaussian interpolation divides by zero: the `z` of
  the avalanche is NaN and `vertex()` panics at `find(..).unwrap()` of the drift lookup
  (`vertex_panic_sites` applies, second disjunct);
* `evOne` — the same with another pad triplet: one avalanche, one space point, no cluster, no
  track, no vertex: every hypothesis of `vertex_total_of_no_nan` is discharged and the function
  returns `None`;
* a two-track input of the last stage with a fitted vertex (hypothesis and conclusion of
  the `Some` case of `stageVertex_spec`, the stage-5 part of `vertex_result_spec`).
A closed `example` of a whole event with a vertex is out of reach of kernel evaluation (two
clusters of ≥ 13 points in a 250 × 230 Hough accumulator, three Nelder–Mead runs); the witnesses of
that hypothesis are the simulated events of harness/src/c09b.rs on the `Float` instance.

The stand-ins for the transcendental functions are arbitrary (no theorem uses a law of them):
`ln x = x - 4` (so that the pad triplet `1, 2, 1` divides by `ln(2²/(1·1)) = 0`), Hough
`sin = cos = 0` (every point votes the bins `(θ, 0)`), the helix functions of `C14c.xH`.
-/
namespace AlphaG.VertexPipeline.Examples
open AlphaG AlphaG.C14c AlphaG.C14c.XRat AlphaG.VertexPipeline
open AlphaG.Cluster AlphaG.NelderMead AlphaG.TrackInit AlphaG.Helix

def xD : Deconv.Ops XRat where
  zero := .fin 0
  inf := .pinf
  sumInit := .fin 0
  add := lift2 (· + ·)
  sub := lift2 (· - ·)
  mul := lift2 (· * ·)
  div := XRat.div
  min := fun a b => if XRat.lt b a then b else a
  lt := XRat.lt
  le := XRat.le

def xGeo : Matching.Geo XRat where
  log := lift1 (fun x => x - 4)
  ofNat := fun n => .fin n
  half := .fin (1 / 2)
  two := .fin 2
  width := .fin (1 / 250)
  halfLength := .fin (144 / 125)

/-- The identity "sort" (no theorem of C09b needs anything of the sorter). -/
def xSorter : Matching.Sorter XRat := { perm := fun keys => List.range keys.length }

/-- Response tables: constant `-1` (17 samples cover every window of both grids); no cross-talk
(`a_matrix` is the identity); `sqrt 1 = 1`. -/
def xTables : Avalanches.Tables XRat where
  wireResp := List.replicate 17 (.fin (-1))
  padResp := List.replicate 17 (.fin (-1))
  factors := [.fin 1]
  sqrt := id

def xDrift : Drift.Ops XRat where
  add := lift2 (· + ·)
  sub := lift2 (· - ·)
  mul := lift2 (· * ·)
  div := XRat.div
  abs := lift1 (fun x => |x|)
  lt := XRat.lt
  le := XRat.le

/-- One z slice `|z| ≤ 10` with two knots: `r` falls from 2 to 1 over `t ∈ [0, 100]`. -/
def xDriftTables : List (Drift.Slice XRat) :=
  [{ table := [⟨.fin 0, .fin 2, .fin 0⟩, ⟨.fin 100, .fin 1, .fin 0⟩], zUpper := .fin 10 }]

def xHough : Hough.Ops XRat where
  add := lift2 (· + ·)
  sub := lift2 (· - ·)
  mul := lift2 (· * ·)
  div := XRat.div
  sqrt := id
  sin := fun _ => .fin 0
  cos := fun _ => .fin 0
  ofU32 := fun n => .fin n
  floorI32 := fun x => match x with | .fin q => Int.floor q | _ => 0
  le := XRat.le
  beq := xT.eq
  fullTurn := .fin 6
  rhoMax := .fin 10

def xConsts : Consts XRat where
  adcRate := .fin 1
  wirePitchPhi := .fin (1 / 100)
  half := .fin (1 / 2)
  maxClusterDistance := .fin (3 / 100)
  epsilon := .fin 1000000
  delta := .fin (1 / 20)
  minTrackLength := .fin (-1000000)
  maxTrackBeamlineDca := .fin 1000000
  maxBeamlineClusteringDistance := .fin 1000000

def xP : Pipe XRat where
  deconv := xD
  geo := xGeo
  sorter := xSorter
  tables := xTables
  drift := xDrift
  driftTables := xDriftTables
  hough := xHough
  fit := xF
  ofNat := fun n => .fin n
  ren := fun _ => ⟨id⟩
  c := xConsts

theorem xResponses : ResponsesOk xD xTables where
  wire := fun off la _ _ _ =>
    Deconv.responseNeg_of_take xD _ 17 (by decide) (by decide) off la (by omega)
  pad := fun off la _ _ _ _ =>
    Deconv.responseNeg_of_take xD _ 17 (by decide) (by decide) off la (by omega)

theorem xDriftShape : DriftShape xDriftTables := by
  refine ⟨by simp [xDriftTables], ?_⟩
  intro sl hsl
  simp only [xDriftTables, List.mem_singleton] at hsl
  subst hsl
  simp

-- (`show` the field's body first: `simp [xT]` would carry the structure literal through all 16 cases)
theorem xEq_iff (a b : XRat) : xT.eq a b = true ↔ a = b ∧ a ≠ .nan := by
  show (match a, b with | .nan, _ => false | _, .nan => false | a, b => decide (a = b)) = true ↔ _
  cases a <;> cases b <;> simp

theorem xBeqPER : Hough.BeqPER xHough where
  symm := by
    intro a b h
    have := (xEq_iff a b).1 h
    exact (xEq_iff b a).2 ⟨this.1.symm, this.1 ▸ this.2⟩
  trans := by
    intro a b c h1 h2
    have e1 := (xEq_iff a b).1 h1
    have e2 := (xEq_iff b c).1 h2
    exact (xEq_iff a c).2 ⟨e1.1.trans e2.1, e1.2⟩

theorem xEqCompat : Hough.EqCompat xHough Eq where
  refl := fun _ => rfl
  of_beq := fun a b h => ((xEq_iff a b).1 h).1
  mul_self := fun a b h => by rw [((xEq_iff a b).1 h).1]
  mul := fun _ _ _ _ h1 h2 => by rw [h1, h2]
  add := fun _ _ _ _ h1 h2 => by rw [h1, h2]
  div_left := fun _ _ _ h => by rw [h]
  sin := fun _ _ h => by rw [h]
  cos := fun _ _ h => by rw [h]
  floor := fun _ _ h => by rw [h]

theorem xClusterLaws : ClusterLaws xP Eq where
  beqPER := xBeqPER
  eqCompat := xEqCompat
  renInj := fun _ _ _ _ _ _ _ h => h

theorem xCmp_none (a b : XRat) : xT.cmp a b = none ↔ a = .nan ∨ b = .nan := by
  have key : ∀ (p q : Bool), (if p then some Ordering.lt else if q then some Ordering.gt else some Ordering.eq) ≠ none := by
    intro p q; cases p <;> cases q <;> simp
  show (match a, b with
    | .nan, _ => none | _, .nan => none
    | a, b => if XRat.lt a b then some Ordering.lt else if XRat.lt b a then some .gt else some .eq) = none ↔ _
  cases a <;> cases b <;> simp [key]

/-- Results of the lifted binary operations are finite or the NaN. -/
def FinOrNaN (x : XRat) : Prop := (∃ q, x = .fin q) ∨ x = .nan

theorem lift2_finOrNaN (f : ℚ → ℚ → ℚ) (a b : XRat) : FinOrNaN (lift2 f a b) := by
  cases a <;> cases b <;> simp [lift2, FinOrNaN]

theorem sumChecked_num {ε : Type} (site : String) (l : List XRat) (acc : XRat) (c : XRat)
    (hacc : ∃ q, acc = .fin q) (hl : ∀ v ∈ l, FinOrNaN v)
    (h : sumChecked (ε := ε) xF site acc l = .ok c) : c ≠ .nan := by
  induction l generalizing acc with
  | nil =>
    simp only [sumChecked, Outcome.ok.injEq] at h
    obtain ⟨q, rfl⟩ := hacc
    subst h
    simp
  | cons v vs ih =>
    unfold sumChecked at h
    split at h
    · cases h
    · rename_i hnan
      have hv : ∃ q, v = .fin q := by
        rcases hl v (by simp) with h | h
        · exact h
        · subst h; simp [xF] at hnan
      obtain ⟨q, rfl⟩ := hacc
      obtain ⟨q', rfl⟩ := hv
      exact ih _ ⟨q + q', by simp [xF, xT, xH, lift2]⟩ (fun w hw => hl w (by simp [hw])) h

theorem xFitLaws : FitLaws xP (fun x => x ≠ XRat.nan) (fun x => x = XRat.nan) where
  ord := xLaws
  cmpNan := xCmp_none
  trackCostNum := by
    intro pts x c h
    unfold trackCost at h
    split at h
    · cases h
    · exact sumChecked_num _ _ _ c ⟨0, rfl⟩ (List.forall_mem_map.2 fun _ _ => lift2_finOrNaN _ _ _) h
  vertexCostNum := by
    intro tracks x c h
    unfold vertexCost at h
    split at h
    · cases h
    · exact sumChecked_num _ _ _ c ⟨0, rfl⟩ (List.forall_mem_map.2 fun _ _ => lift2_finOrNaN _ _ _) h
  tolOk := by decide

theorem xTrackEqLaws : TrackEqLaws xP where
  symm := xBeqPER.symm
  trans := xBeqPER.trans
  zero := by decide

/-- Every named hypothesis of C09b holds for `xP`. -/
theorem xLawsAll : Laws xP Eq (fun x => x ≠ XRat.nan) (fun x => x = XRat.nan) where
  responses := xResponses
  driftShape := xDriftShape
  cluster := xClusterLaws
  fit := xFitLaws
  trackEq := xTrackEqLaws

deriving instance DecidableEq for AlphaG.Matching.Avalanche
deriving instance DecidableEq for AlphaG.Hough.Point
deriving instance DecidableEq for AlphaG.Helix.Params
deriving instance DecidableEq for AlphaG.TrackInit.TrackP

/-- A pulse of amplitude `a` at time bin 0 (constant response `-1` over 17 samples, 3 trailing zeros). -/
def pulse (a : ℚ) : List XRat := List.replicate 17 (.fin (-a)) ++ List.replicate 3 (.fin 0)

/-- One hit of amplitude 7 on wire 20 (pad column 1); the pads of rows 10, 11, 12 of that column see
the amplitudes `f, m, l`. -/
def mkEv (f m l : ℚ) : Matching.Event XRat where
  wires := fun w => if w = 20 then some (pulse 7) else none
  pads := fun c r => if c = 1 ∧ r = 10 then some (pulse f) else if c = 1 ∧ r = 11 then some (pulse m)
    else if c = 1 ∧ r = 12 then some (pulse l) else none

/-- `ln(2²/(1·1)) = 0` with the stand-in `ln x = x - 4`: σ² is a division by zero, `z` is NaN. -/
def evNaN : Matching.Event XRat := mkEv 1 2 1
def evOne : Matching.Event XRat := mkEv 1 3 1

def aNaN : Matching.Avalanche XRat := ⟨0, 20, .nan, .fin 7, .fin 2⟩
def aOne : Matching.Avalanche XRat := ⟨0, 20, .fin (-692 / 625), .fin 7, .fin 3⟩
def pOne : Hough.Point XRat := ⟨.fin 2, .fin (1 / 8), .fin (-692 / 625)⟩

theorem evNaN_avalanches : stageAvalanches xP evNaN = .ok [aNaN] := by decide +kernel
theorem evNaN_points : stagePoints xP [aNaN] = .panic "drift:find" := by decide +kernel

/-- **(a) is not vacuous**: an event on which `vertex()` panics, at `find(..).unwrap()`. -/
theorem evNaN_panics : vertexOfSignals xP evNaN = .panic "drift:find" := by
  rw [vertexOfSignals_eq, evNaN_avalanches, Outcome.bind, vertexFromAvalanches_eq, evNaN_points,
    Outcome.bind]

/-- … and the inventory names exactly this: the second disjunct, with the NaN `z` as witness. -/
example : ∃ avs, stageAvalanches xP evNaN = .ok avs ∧ ∃ a ∈ avs, ZIncomparable xP a.z := by
  have later : ∀ avs pts, stageAvalanches xP evNaN = .ok avs → stagePoints xP avs ≠ .ok pts := by
    intro avs pts h1 h2
    rw [evNaN_avalanches] at h1
    cases h1
    rw [evNaN_points] at h2
    cases h2
  rcases vertex_panic_sites xLawsAll evNaN _ evNaN_panics with ⟨h, _⟩ | ⟨_, h⟩ | ⟨h, _⟩ | h | h
  · exact absurd h (by decide)
  · exact h
  · exact absurd h (by decide)
  · obtain ⟨avs, pts, _, h1, h2, _⟩ := h
    exact absurd h2 (later avs pts h1)
  · obtain ⟨avs, pts, _, _, h1, h2, _⟩ := h
    exact absurd h2 (later avs pts h1)

example : ZIncomparable xP aNaN.z := by
  refine ⟨?_, ?_⟩
  · intro sl hsl
    simp only [xP, xDriftTables, List.mem_singleton] at hsl
    subst hsl
    decide
  · intro last hlast
    simp only [xP, xDriftTables, List.getLast?_singleton, Option.some.injEq] at hlast
    subst hlast
    decide

theorem evOne_avalanches : stageAvalanches xP evOne = .ok [aOne] := by decide +kernel
theorem evOne_points : stagePoints xP [aOne] = .ok #[pOne] := by decide +kernel

theorem pOne_refl : PointsReflexive xP #[pOne] := by
  intro p hp
  simp only [List.mem_toArray, List.mem_singleton] at hp
  subst hp
  decide +kernel

/-- One space point: `cluster_spacepoints` finds no cluster (13 points are needed). Evaluating
`stageClusters xP #[pOne]` instead walks the 230 θ-bins of the accumulator. -/
theorem evOne_clusters (r : Cluster.Result) (h : stageClusters xP #[pOne] = .ok r) : r.clusters = [] :=
  stageClusters_small xClusterLaws _ pOne_refl (by decide) r h

/-- With no track every radius sum compared at `find_vertices:partial_cmp` is `0` (the default
track's radius, summed). -/
theorem fsum_no_tracks (l : List Nat) :
    TrackInit.fsum xP.fit.t (l.map fun i => ((#[] : Array (TrackP XRat)).getD i (dfltTrack xP)).q.r)
      = .fin 0 := by
  have : (fun i : Nat => ((#[] : Array (TrackP XRat)).getD i (dfltTrack xP)).q.r)
      = fun _ => XRat.fin 0 := by
    funext i
    simp [Array.getD, dfltTrack, xP, xF, xT, xH]
  rw [this, TrackInit.fsum, List.map_const']
  show (List.replicate l.length (XRat.fin 0)).foldl xT.h.add (.fin 0) = .fin 0
  generalize l.length = n
  induction n with
  | zero => rfl
  | succ n ih =>
    rwa [List.replicate_succ, List.foldl_cons,
      show xT.h.add (.fin 0) (.fin 0) = XRat.fin 0 by simp [xT, xH, lift2]]

theorem evOne_stages {avs pts} (ha : stageAvalanches xP evOne = .ok avs)
    (hp : stagePoints xP avs = .ok pts) : avs = [aOne] ∧ pts = #[pOne] := by
  rw [evOne_avalanches] at ha
  cases ha
  rw [evOne_points] at hp
  cases hp
  exact ⟨rfl, rfl⟩

/-- **(b) is not vacuous**: every hypothesis of `vertex_total_of_no_nan` holds for `evOne` (one
avalanche, one space point, no cluster). -/
theorem evOne_total : ∃ v, vertexOfSignals xP evOne = .ok v := by
  apply vertex_total_of_no_nan xLawsAll evOne
  · intro r hr
    have : Ranges.contiguousRanges (Matching.occupancy evOne) = [(20, 21)] := by decide +kernel
    rw [this, List.mem_singleton] at hr
    subst hr
    unfold PivotFails
    decide +kernel
  · intro avs h a ha
    rw [evOne_avalanches] at h
    cases h
    rw [List.mem_singleton] at ha
    subst ha
    rintro ⟨hall, _⟩
    exact absurd (hall _ (List.mem_singleton.2 rfl)) (by decide +kernel)
  · intro avs pts ha hp
    rw [(evOne_stages ha hp).2]
    exact pOne_refl
  · intro avs pts r ha hp hr c hc
    obtain ⟨_, rfl⟩ := evOne_stages ha hp
    rw [evOne_clusters r hr] at hc
    cases hc
  · intro avs pts r ts ha hp hr ht
    obtain ⟨_, rfl⟩ := evOne_stages ha hp
    rw [evOne_clusters r hr] at ht
    cases ht
    refine ⟨?_, ?_, ?_, ?_⟩
    · intro t ht; simp at ht
    · intro t ht; simp at ht
    · intro a b h
      rcases (xCmp_none _ _).1 h with h' | h'
      · rw [fsum_no_tracks a] at h'; cases h'
      · rw [fsum_no_tracks b] at h'; cases h'
    · intro x hx t ht; simp at ht

example : vertexOfSignals xP evOne = .ok none := by
  obtain ⟨r, hr⟩ := stageClusters_total xClusterLaws #[pOne] pOne_refl
  have ht : stageTracks xP #[pOne] r.clusters = .ok #[] := by rw [evOne_clusters r hr]; rfl
  have hv : stageVertex xP #[] = .ok none := by decide +kernel
  exact (vertex_ok_stage xP evOne none).2 ⟨_, evOne_avalanches, _, evOne_points, r, hr, _, ht, hv⟩

/-- Two tracks (those of `C14c`'s vertex-fit example); with the stand-in constants both pass the
filters, form one beamline cluster, and the minimiser stops at its first convergence test. -/
theorem twoTracks_vertex :
    stageVertex xP #[trA, trB] = .ok (some (.fin 0, .fin 0, .fin (7 / 50))) := by decide +kernel

/-- The stage-5 part of **(c) is not vacuous**: hypothesis and conclusion of the `Some` case of
`stageVertex_spec`. -/
example : ∃ vf, vertexFitOf xP #[trA, trB] = .ok (some vf) ∧
    vf.position = (.fin 0, .fin 0, .fin (7 / 50)) ∧ 2 ≤ vf.cluster.length ∧
    FittedVertex xP #[trA, trB] vf := by
  obtain ⟨vf, h1, h2, h3, _, h4⟩ :=
    (stageVertex_spec xFitLaws xTrackEqLaws #[trA, trB]).of_ok twoTracks_vertex _ rfl
  exact ⟨vf, h1, h2, h3, h4⟩

end AlphaG.VertexPipeline.Examples
