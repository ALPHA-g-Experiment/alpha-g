import AlphaG.Lemmas.MapsArms
import AlphaG.Lemmas.MapsTables
/-
C08, maps part: wires, PadWing boards, pads, run-number dispatch, geometry.
All tables and `match run_number` arms come from `AlphaG.Generated.*` (regenerated from the
source text on every run); the `decide +kernel` obligations below are therefore re-checked
against the current source every time.
-/
namespace AlphaG.Maps
open AlphaG AlphaG.Generated

/-- Arms select only tables that exist, never a literal, and end in a catch-all. -/
def armsWellFormed (arms : Arms) (nTables : Nat) : Bool :=
  arms.all (fun a => match a.2 with
    | .table i => decide (i < nTables)
    | .value _ => false
    | .err _ => true)
  && arms.any (fun a => a.1 == .wild)

theorem arms_wellFormed : armsWellFormed wirePreampArms preampTables.length = true
    ∧ armsWellFormed wireChannelArms channelTables.length = true
    ∧ armsWellFormed pwbArms pwbTables.length = true := by decide +kernel

/-- Every (preamp table, channel table) pair of the source is a valid wiring. -/
theorem wire_tables_ok :
    (preampTables.all fun t => channelTables.all fun c => wireTablesOk t.2 c.2) = true := by
  decide +kernel

/-- Every `PADWING_BOARDS_*` table of the source is a valid installation. -/
theorem pwb_tables_ok : (pwbTables.all fun t => pwbTableOk t.2) = true := by decide +kernel

/-- The `INV_PADS_0` construction is a valid pad map (and its initialiser does not panic). -/
theorem pad_ok : padOk = true := by decide +kernel

theorem board_counts : alpha16Boards.length = 8 ∧ tpcAnodeWires = 256 ∧ tpcPadColumns = 32
    ∧ tpcPadRows = 576 ∧ tpcPads = 18432 ∧ tpcPwbColumns = 8 ∧ tpcPwbRows = 8
    ∧ pwbPadColumns = 4 ∧ pwbPadRows = 72 := by decide

/-- The arms split the u32 run numbers at `firstMapRun`: errors below, a map from there on. -/
theorem arms_split :
    armsSplitAt wirePreampArms (firstMapRun wirePreampArms) = true
      ∧ armsSplitAt wireChannelArms (firstMapRun wireChannelArms) = true
      ∧ armsSplitAt pwbArms (firstMapRun pwbArms) = true := by decide +kernel

/-- No arm is shadowed by an earlier one (each is selected by some run number). -/
theorem no_shadowed_arm :
    (noShadowedArm wirePreampArms && noShadowedArm wireChannelArms && noShadowedArm pwbArms)
      = true := by decide +kernel

/-- Same for the six calibration dispatches (these may select literal values). -/
theorem cal_arms_ok :
    (calArms.all fun c =>
      armsSplitAt c.2.1 (firstMapRun c.2.1) && noShadowedArm c.2.1
        && c.2.1.any (fun a => a.1 == .wild)
        && tablesBelow c.2.1 c.2.2.length) = true := by decide +kernel

theorem dispatch_cases (arms : Arms) (n : Nat) (h : armsWellFormed arms n = true) (run : Nat) :
    (∃ i, i < n ∧ dispatch arms run = some (.table i)) ∨ (∃ v, dispatch arms run = some (.err v)) := by
  simp only [armsWellFormed, Bool.and_eq_true, List.all_eq_true] at h
  obtain ⟨x, hx⟩ := dispatch_isSome arms h.2 run
  obtain ⟨b, hb, e⟩ := List.mem_map.1 (dispatch_mem arms run x hx)
  have := h.1 b hb
  rw [e] at this
  cases x with
  | table i => exact Or.inl ⟨i, by simpa using this, hx⟩
  | value v => simp at this
  | err v => exact Or.inr ⟨v, hx⟩

theorem armTable_of_lt {α : Type} (tables : List (String × α)) (i : Nat) (h : i < tables.length) :
    ∃ t, t ∈ tables ∧ armTable tables i = some t.2 := by
  refine ⟨tables[i], List.getElem_mem h, ?_⟩
  simp [armTable, List.getElem?_eq_getElem h]

theorem arm_cases {α : Type} (arms : Arms) (tables : List (String × α))
    (h : armsWellFormed arms tables.length = true) (run : Nat) :
    (hasMapAt arms run = true ∧ ∃ i t, t ∈ tables ∧ dispatch arms run = some (.table i)
        ∧ armTable tables i = some t.2)
    ∨ (hasMapAt arms run = false ∧ ∃ v, dispatch arms run = some (.err v)) := by
  rcases dispatch_cases arms _ h run with ⟨i, hi, e⟩ | ⟨v, e⟩
  · obtain ⟨t, ht, et⟩ := armTable_of_lt tables i hi
    exact Or.inl ⟨by simp [hasMapAt, e], i, t, ht, e, et⟩
  · exact Or.inr ⟨by simp [hasMapAt, e], v, e⟩

/-- A wire map exists for the run number: both matches select a table. -/
def wireMapExists (run : Nat) : Prop :=
  hasMapAt wirePreampArms run = true ∧ hasMapAt wireChannelArms run = true

instance (run : Nat) : Decidable (wireMapExists run) := by
  unfold wireMapExists; exact inferInstance

/-- First run number with a wire map (from the generated arms). -/
def wireFirstRun : Nat := max (firstMapRun wirePreampArms) (firstMapRun wireChannelArms)

theorem wirePosition_cases (run : Nat) :
    (wireMapExists run ∧ ∃ t u, t ∈ preampTables ∧ u ∈ channelTables
        ∧ wirePosition run = wireCore t.2 u.2)
    ∨ (¬ wireMapExists run ∧ ∃ e, ∀ b c, wirePosition run b c = .err e) := by
  rcases arm_cases _ preampTables arms_wellFormed.1 run with ⟨m1, i, t, ht, d1, e1⟩ | ⟨m1, v, d1⟩
  · rcases arm_cases _ channelTables arms_wellFormed.2.1 run with ⟨m2, j, u, hu, d2, e2⟩ | ⟨m2, v, d2⟩
    · exact Or.inl ⟨⟨m1, m2⟩, t, u, ht, hu, by funext b c; simp only [wirePosition, d1, d2, e1, e2]⟩
    · exact Or.inr ⟨fun h => Bool.false_ne_true (m2.symm.trans h.2), v, fun b c => by simp only [wirePosition, d1, d2]⟩
  · exact Or.inr ⟨fun h => Bool.false_ne_true (m1.symm.trans h.1), v, fun b c => by simp only [wirePosition, d1]⟩

/-- **C08 wire_bijection.** For every run number for which a map exists, (Alpha16 board,
channel) ↦ anode wire is a bijection from 8 boards × 32 channels onto the 256 wires. -/
theorem wire_bijection (run : Nat) (h : wireMapExists run) : WireBij (wirePosition run) := by
  rcases wirePosition_cases run with ⟨-, t, u, ht, hu, e⟩ | ⟨hn, -⟩
  · have ok := wire_tables_ok
    simp only [List.all_eq_true] at ok
    rw [e]; exact wireBij_of_ok t.2 u.2 (ok t ht u hu)
  · exact absurd h hn

/-- `(board, channel) ↦ wire` as a function between finite types (0 when the lookup fails,
which it does not for a run with a map). -/
def wireFin (run : Nat) (x : Fin 8 × Fin 32) : Fin 256 :=
  match wirePosition run x.1.val x.2.val with
  | .ok w => if h : w < 256 then ⟨w, h⟩ else ⟨0, by omega⟩
  | _ => ⟨0, by omega⟩

/-- **C08 wire_bijection**, as a bijection `Fin 8 × Fin 32 → Fin 256`. -/
theorem wireFin_bijective (run : Nat) (h : wireMapExists run) :
    Function.Injective (wireFin run) ∧ Function.Surjective (wireFin run) := by
  have B := wire_bijection run h
  have val : ∀ x : Fin 8 × Fin 32, wirePosition run x.1.val x.2.val = .ok (wireFin run x).val := by
    intro x
    obtain ⟨w, hw, e⟩ := B.total x.1.val x.2.val x.1.isLt x.2.isLt
    simp only [wireFin, e, hw, dite_true]
  constructor
  · intro x y e
    obtain ⟨e1, e2⟩ := B.inj x.1.val x.2.val y.1.val y.2.val (wireFin run x).val x.1.isLt x.2.isLt
      y.1.isLt y.2.isLt (val x) (by rw [e]; exact val y)
    exact Prod.ext (Fin.ext e1) (Fin.ext e2)
  · intro w
    obtain ⟨b, c, hb, hc, e⟩ := B.surj w.val w.isLt
    refine ⟨(⟨b, hb⟩, ⟨c, hc⟩), Fin.ext ?_⟩
    have := val (⟨b, hb⟩, ⟨c, hc⟩)
    simp only at this
    rw [e, ok_eq_ok] at this
    exact this.symm

/-- The same for `u32` run numbers. -/
theorem wire_bijection_u32 (run : UInt32) (h : wireMapExists run.toNat) :
    WireBij (wirePosition run.toNat) := wire_bijection run.toNat h

/-- Without a map the answer is an error (never a value, never a panic). -/
theorem wire_no_map_errors (run : Nat) (h : ¬ wireMapExists run) (b c : Nat) :
    ∃ e, wirePosition run b c = .err e := by
  rcases wirePosition_cases run with ⟨hm, -⟩ | ⟨-, e, he⟩
  · exact absurd hm h
  · exact ⟨e, he b c⟩

theorem hasMapAt_of_isErrAt (arms : Arms) (run : Nat) (h : isErrAt arms run = true) :
    hasMapAt arms run = false := by
  unfold isErrAt at h; unfold hasMapAt
  split at h
  · rename_i x hx; rw [hx]; cases x <;> simp_all [ArmRhs.isErr]
  · cases h

/-- **C08 before_first_map_errors (wires).** A run number before the first map gives an error
for every board and channel, never a wire. -/
theorem wire_before_first_map_errors (run : Nat) (h32 : run < 2 ^ 32) (h : run < wireFirstRun)
    (b c : Nat) : ∃ e, wirePosition run b c = .err e := by
  refine wire_no_map_errors run (fun hm => ?_) b c
  have sp := arms_split
  by_cases h1 : run < firstMapRun wirePreampArms
  · exact Bool.false_ne_true
      ((hasMapAt_of_isErrAt _ _ (before_of_split _ _ sp.1 run h1 h32)).symm.trans hm.1)
  · have h2 : run < firstMapRun wireChannelArms := by unfold wireFirstRun at h; omega
    exact Bool.false_ne_true
      ((hasMapAt_of_isErrAt _ _ (before_of_split _ _ sp.2.1 run h2 h32)).symm.trans hm.2)

/-- **C08 no_gap (wires).** Every u32 run number from the first map on has a map. -/
theorem wire_no_gap (run : Nat) (h32 : run < 2 ^ 32) (h : wireFirstRun ≤ run) : wireMapExists run :=
  ⟨from_of_split _ _ arms_split.1 run (Nat.le_trans (Nat.le_max_left _ _) h) h32,
   from_of_split _ _ arms_split.2.1 run (Nat.le_trans (Nat.le_max_right _ _) h) h32⟩

/-- **C08 sim_eq_5000 (wires).** The simulation run number `u32::MAX` maps exactly like run 5000
(aw_map.rs, at the `u32::MAX` arms: "The simulation mapping was done to match the mapping of run
number 5000"). -/
theorem wire_sim_eq_5000 (b c : Nat) : wirePosition 4294967295 b c = wirePosition 5000 b c := by
  have e1 : dispatch wirePreampArms 4294967295 = dispatch wirePreampArms 5000 := by decide +kernel
  have e2 : dispatch wireChannelArms 4294967295 = dispatch wireChannelArms 5000 := by decide +kernel
  simp only [wirePosition, e1, e2]

/-- The wire lookup never panics, for any run number, board row and channel < 32. -/
theorem wire_total (run b c : Nat) (hb : b < 8) (hc : c < 32) : NoPanic (wirePosition run b c) := by
  by_cases h : wireMapExists run
  · obtain ⟨w, _, e⟩ := (wire_bijection run h).total b c hb hc
    rw [e]; exact noPanic_ok _
  · obtain ⟨e, he⟩ := wire_no_map_errors run h b c
    rw [he]; exact noPanic_err _

def pwbMapExists (run : Nat) : Prop := hasMapAt pwbArms run = true

instance (run : Nat) : Decidable (pwbMapExists run) := by
  unfold pwbMapExists; exact inferInstance

def pwbFirstRun : Nat := firstMapRun pwbArms

/-- A board is installed in a run when the run's map gives it a position. -/
def installed (run b : Nat) : Prop := ∃ p, pwbPosition run b = .ok p

theorem pwbPosition_cases (run : Nat) :
    (pwbMapExists run ∧ ∃ t, t ∈ pwbTables ∧ pwbPosition run = pwbCore t.2)
    ∨ (¬ pwbMapExists run ∧ ∃ e, ∀ b, pwbPosition run b = .err e) := by
  rcases arm_cases _ pwbTables arms_wellFormed.2.2 run with ⟨m, i, t, ht, d, e⟩ | ⟨m, v, d⟩
  · exact Or.inl ⟨m, t, ht, by funext b; simp only [pwbPosition, d, e]⟩
  · exact Or.inr ⟨fun h => Bool.false_ne_true (m.symm.trans h), v, fun b => by simp only [pwbPosition, d]⟩

/-- **C08 (PadWing boards).** For every run number with a map, installed board ↦ (column, row)
is a bijection onto the 8 × 8 positions (so exactly 64 boards are installed); no panic. -/
theorem pwb_bijection (run : Nat) (h : pwbMapExists run) :
    PwbBij (pwbPosition run) padwingBoards.length := by
  rcases pwbPosition_cases run with ⟨-, t, ht, e⟩ | ⟨hn, -⟩
  · have ok := pwb_tables_ok
    simp only [List.all_eq_true] at ok
    rw [e]; exact pwbBij_of_ok t.2 (ok t ht)
  · exact absurd h hn

/-- **C08 pad_bijection.** For every run number for which a map exists, (installed PadWing
board, chip, pad channel) ↦ pad is a bijection from 64 × 4 × 72 onto the 32 × 576 = 18 432 pads
(proved as a product of the 8 × 8 board bijection and the 4 × 72 pad bijection). -/
theorem pad_bijection (run : Nat) (h : pwbMapExists run) :
    TpcPadBij (padPosition run) (installed run) padwingBoards.length :=
  tpcPadBij_of (pwbPosition run) _ (pwb_bijection run h) (padBij_of_ok pad_ok)

theorem pad_bijection_u32 (run : UInt32) (h : pwbMapExists run.toNat) :
    TpcPadBij (padPosition run.toNat) (installed run.toNat) padwingBoards.length :=
  pad_bijection run.toNat h

/-- `(chip, pad channel) ↦ (column, row)` within a board: bijection onto 4 × 72, run independent. -/
theorem padInPwb_bijection : PadBij padInPwb := padBij_of_ok pad_ok

theorem pwb_before_first_map_errors (run : Nat) (h32 : run < 2 ^ 32) (h : run < pwbFirstRun)
    (b : Nat) : ∃ e, pwbPosition run b = .err e := by
  rcases pwbPosition_cases run with ⟨hm, -⟩ | ⟨-, e, he⟩
  · exact absurd ((hasMapAt_of_isErrAt _ _ (before_of_split _ _ arms_split.2.2 run h h32)).symm.trans hm)
      Bool.false_ne_true
  · exact ⟨e, he b⟩

theorem pad_before_first_map_errors (run : Nat) (h32 : run < 2 ^ 32) (h : run < pwbFirstRun)
    (b chip ch : Nat) : ∃ e, padPosition run b chip ch = .err e := by
  obtain ⟨e, he⟩ := pwb_before_first_map_errors run h32 h b
  exact ⟨e, by simp only [padPosition, padCompose, he]⟩

theorem pwb_no_gap (run : Nat) (h32 : run < 2 ^ 32) (h : pwbFirstRun ≤ run) : pwbMapExists run :=
  from_of_split _ _ arms_split.2.2 run h h32

theorem pwb_sim_eq_5000 (b : Nat) : pwbPosition 4294967295 b = pwbPosition 5000 b := by
  have e : dispatch pwbArms 4294967295 = dispatch pwbArms 5000 := by decide +kernel
  simp only [pwbPosition, e]

theorem pad_sim_eq_5000 (b chip ch : Nat) :
    padPosition 4294967295 b chip ch = padPosition 5000 b chip ch := by
  show padCompose (pwbPosition _) b chip ch = padCompose (pwbPosition _) b chip ch
  rw [funext pwb_sim_eq_5000]

theorem cal_split (c : String × Arms × List (String × String)) (hc : c ∈ calArms) :
    armsSplitAt c.2.1 (firstMapRun c.2.1) = true := by
  have ok := cal_arms_ok
  simp only [List.all_eq_true, Bool.and_eq_true] at ok
  exact (ok c hc).1.1.1

/-! Geometry, in exact rational arithmetic in units of one turn (2π) -/

/-- φ of a wire / 2π: `ANODE_WIRE_PITCH_PHI * (shifted_index + 0.5)` with pitch = 2π / 256. -/
def phiWire (w : Nat) : Rat := ((phiWireIndex w : Rat) + 1 / 2) / (tpcAnodeWires : Rat)

/-- φ of a pad column / 2π: `(column + 0.5) * PAD_PITCH_PHI` with pitch = 2π / 32. -/
def phiCol (c : Nat) : Rat := ((c : Rat) + 1 / 2) / (tpcPadColumns : Rat)

def ratAbs (x : Rat) : Rat := if x < 0 then -x else x

/-- **C08 wire_in_column.** Every wire lies inside the pad column it is associated with:
|φ_wire − φ_column| < half a column pitch = 1/64 turn (= π/32), for all 256 wires. -/
theorem wire_in_column : ∀ w, w < 256 →
    wireToPadColumn w < 32 ∧ ratAbs (phiWire w - phiCol (wireToPadColumn w)) < 1 / 64 := by
  decide +kernel

/-- `wrapping_sub` then `& 0xff` is subtraction modulo 256 (256 divides 2^64). -/
theorem wireToPadColumn_eq (w : Nat) : wireToPadColumn w = (w + 248) % 256 / 8 := by
  unfold wireToPadColumn wrappingSubAnd
  rw [show wireToColumnMask = 2 ^ 8 - 1 from rfl, and_low]
  simp only [wireShift, wiresPerColumn]
  omega

theorem padColumnToWires_eq (c : Nat) :
    padColumnToWires c = ((c * 8 + 8) % 256, (c * 8 + 8) % 256 + 8) := by
  unfold padColumnToWires
  rw [show columnToWiresMask = 2 ^ 8 - 1 from rfl, and_low]
  rfl

/-- **C08 column fibres.** `pad_column_to_wires c` is exactly the set of wires of column `c`,
has 8 wires and never wraps (`end ≤ 256`), for all 32 columns. -/
theorem padColumnToWires_fibre : ∀ c, c < 32 →
    (padColumnToWires c).2 = (padColumnToWires c).1 + 8 ∧ (padColumnToWires c).2 ≤ 256 ∧
    ∀ w, w < 256 → (((padColumnToWires c).1 ≤ w ∧ w < (padColumnToWires c).2) ↔ wireToPadColumn w = c) := by
  intro c hc
  rw [padColumnToWires_eq]
  refine ⟨rfl, by simp only; omega, fun w hw => ?_⟩
  rw [wireToPadColumn_eq w]
  simp only
  omega

/-- The index used by `wire_to_pad_column` is the one `TpcWirePosition::phi` uses. -/
theorem wireToPadColumn_phiIndex : ∀ w, w < 256 → wireToPadColumn w = phiWireIndex w / 8 :=
  fun _ _ => rfl

example : wireMapExists 5000 := by decide +kernel
example : wireMapExists 4294967295 := by decide +kernel
example : pwbMapExists 5000 ∧ pwbMapExists 4294967295 ∧ pwbMapExists 20000 := by decide +kernel
example : ¬ wireMapExists 0 ∧ ¬ pwbMapExists 0 := by decide +kernel
example : 0 < wireFirstRun ∧ wireFirstRun ≤ 5000 ∧ 0 < pwbFirstRun ∧ pwbFirstRun ≤ 5000 := by
  decide +kernel
example : wirePosition 5000 0 0 = .ok 4 := by decide +kernel
example : padPosition 5000 60 3 72 = .ok (30, 504) := by decide +kernel
example : installed 5000 60 := ⟨(7, 7), by decide +kernel⟩
example : ¬ installed 5000 70 := by
  rintro ⟨p, hp⟩
  have : pwbPosition 5000 70 = .err "BoardIdNotFound" := by decide +kernel
  rw [this] at hp; cases hp

end AlphaG.Maps
