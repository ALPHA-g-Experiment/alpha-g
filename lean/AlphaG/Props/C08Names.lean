import AlphaG.Lemmas.MapsNames
/-
C08, names part (and the bank-name part of C01): exactly the documented bank names are
accepted, each denotes exactly one (kind, board, channel), distinct names denote distinct
channels, the board tables are duplicate free, and no string makes a parser panic.
-/
namespace AlphaG.BankName
open AlphaG AlphaG.Generated

/-! ### Specification: the documented grammar over the generated board tables -/

/-- The documented main-event bank names as character lists: `B` + Alpha16 board + one of
`0-9A-F`; `C` + Alpha16 board + one of `0-9A-V`; `PC` + PadWing board; `ATAT`, `TRBA`, `MCVX`. -/
def documentedChars : List (List Char) :=
  (alpha16Boards.flatMap fun r => "0123456789ABCDEF".toList.map fun d => 'B' :: r.1.toList ++ [d])
  ++ (alpha16Boards.flatMap fun r =>
        "0123456789ABCDEFGHIJKLMNOPQRSTUV".toList.map fun d => 'C' :: r.1.toList ++ [d])
  ++ (padwingBoards.map fun r => 'P' :: 'C' :: r.1.toList)
  ++ ["ATAT".toList, "TRBA".toList, "MCVX".toList]

def documentedNames : List String := documentedChars.map String.ofList

def documentedChronoboxNames : List String := ["CBF1", "CBF2", "CBF3", "CBF4"]

def documentedSeq2Names : List String := ["SEQ2"]

def documentedCodes : List (List Nat) := documentedChars.map (fun l => l.map Char.toNat)

/-- The name that denotes `n` (inverse of the parser on its range). -/
def render (n : Name) : List Nat :=
  match n.kind with
  | .adc16 => 66 :: (a16Codes.getD n.board [] ++ [digitCode n.channel])
  | .adc32 => 67 :: (a16Codes.getD n.board [] ++ [digitCode n.channel])
  | .padwing => 80 :: 67 :: pwbCodes.getD n.board []
  | .trg => codes triggerName
  | .trb3 => codes trb3Name
  | .mcvx => codes mcVertexName

/-- The (kind, board, channel) triples that exist. -/
def ValidName (n : Name) : Prop :=
  match n.kind with
  | .adc16 => n.board < alpha16Boards.length ∧ n.channel < 16
  | .adc32 => n.board < alpha16Boards.length ∧ n.channel < 32
  | .padwing => n.board < padwingBoards.length ∧ n.channel = 0
  | .trg => n.board = 0 ∧ n.channel = 0
  | .trb3 => n.board = 0 ∧ n.channel = 0
  | .mcvx => n.board = 0 ∧ n.channel = 0

/-- The (kind, board, channel) triples that exist, in the order of `documentedChars`. -/
def allNames : List Name :=
  ((List.range alpha16Boards.length).flatMap fun i => (List.range 16).map fun v => ⟨.adc16, i, v⟩)
  ++ ((List.range alpha16Boards.length).flatMap fun i => (List.range 32).map fun v => ⟨.adc32, i, v⟩)
  ++ ((List.range padwingBoards.length).map fun i => ⟨.padwing, i, 0⟩)
  ++ [⟨.trg, 0, 0⟩, ⟨.trb3, 0, 0⟩, ⟨.mcvx, 0, 0⟩]

theorem mem_allNames (n : Name) : n ∈ allNames ↔ ValidName n := by
  obtain ⟨k, b, c⟩ := n
  cases k <;>
    simp [allNames, ValidName, List.mem_flatMap, List.mem_map, List.mem_range, @eq_comm _ 0]
  -- `simp` leaves the `padwing` case (board and chip)
  exact ⟨fun ⟨a, h, e, hc⟩ => ⟨e ▸ h, hc⟩, fun ⟨h, hc⟩ => ⟨b, h, rfl, hc⟩⟩

/-! ### Kernel obligations on the generated tables -/

/-- The documented grammar, name by name, is the rendering of the existing triples. -/
theorem documentedCodes_eq : documentedCodes = allNames.map render := by decide +kernel

/-- Board names are two characters that pass the screens of their parsers. -/
theorem board_codes :
    (∀ b ∈ a16Codes, TwoOf Screened b) ∧ (∀ b ∈ pwbCodes, TwoOf (isAsciiDigit · = true) b) := by
  unfold TwoOf Screened; decide +kernel

theorem mainName_literals : mainName (codes triggerName) = .ok ⟨.trg, 0, 0⟩
    ∧ mainName (codes trb3Name) = .ok ⟨.trb3, 0, 0⟩ ∧ mainName (codes mcVertexName) = .ok ⟨.mcvx, 0, 0⟩ := by
  decide +kernel

theorem nodup_of_map {α β γ : Type} (l : List α) (f : α → β) (g : α → γ) (k : β → γ)
    (h : ∀ a ∈ l, g a = k (f a)) (hg : (l.map g).Nodup) : (l.map f).Nodup := by
  have e : l.map g = (l.map f).map k := by rw [List.map_map]; exact List.map_congr_left h
  rw [e] at hg
  exact List.Pairwise.of_map k (fun a b hab e => hab (e ▸ rfl)) hg

/-- **C08 board tables.** Names, MAC addresses and device ids are pairwise distinct, and a
PadWing device id is the little-endian 32-bit value of the first four MAC bytes. -/
theorem board_tables_distinct :
    (alpha16Boards.map (fun r => r.1)).Nodup ∧ (alpha16Boards.map (fun r => r.2)).Nodup
    ∧ (padwingBoards.map (fun r => r.1)).Nodup ∧ (padwingBoards.map (fun r => r.2.1)).Nodup
    ∧ (padwingBoards.map (fun r => r.2.2)).Nodup
    ∧ (∀ r, r ∈ padwingBoards → r.2.1.length = 6 ∧ (∀ x, x ∈ r.2.1 → x < 256)
        ∧ r.2.2 = r.2.1.getD 0 0 + 256 * (r.2.1.getD 1 0 + 256 * (r.2.1.getD 2 0 + 256 * r.2.1.getD 3 0)))
    ∧ (∀ r, r ∈ alpha16Boards → r.2.length = 6 ∧ (∀ x, x ∈ r.2 → x < 256))
    ∧ (∀ r, r ∈ alpha16Boards → r.1.toList.length = 2)
    ∧ (∀ r, r ∈ padwingBoards → r.1.toList.length = 2) := by
  have h5 : (padwingBoards.map (fun r => r.2.2)).Nodup := by decide +kernel
  have h6 : ∀ r, r ∈ padwingBoards → r.2.1.length = 6 ∧ (∀ x, x ∈ r.2.1 → x < 256)
      ∧ r.2.2 = r.2.1.getD 0 0 + 256 * (r.2.1.getD 1 0 + 256 * (r.2.1.getD 2 0 + 256 * r.2.1.getD 3 0)) := by
    decide +kernel
  -- distinct device ids, each a function of the MAC address: distinct MAC addresses
  exact ⟨by decide +kernel, by decide +kernel, by decide +kernel,
    nodup_of_map _ _ _
      (fun m => m.getD 0 0 + 256 * (m.getD 1 0 + 256 * (m.getD 2 0 + 256 * m.getD 3 0)))
      (fun r hr => (h6 r hr).2.2) h5, h5, h6,
    by decide +kernel, by decide +kernel, by decide +kernel⟩

/-- The first-character dispatch tables and name literals extracted from the source equal the
literals below, which are what `mainName` / `alpha16Name` transcribe by hand. Nothing in Lean ties
these literals to the two functions: when the source changes this fails, and the transcription in
`Model/BankName.lean` has to be compared by eye. -/
theorem dispatch_tie :
    mainDispatch = [(['A'], "TriggerBankName"), (['B', 'C'], "Alpha16BankName"),
      (['P'], "PadwingBankName"), (['T'], "Trb3BankName"), (['M'], "McVertexBankName")]
    ∧ alpha16Dispatch = [(['C'], "Adc32BankName"), (['B'], "Adc16BankName")]
    ∧ triggerName = "ATAT" ∧ trb3Name = "TRBA" ∧ mcVertexName = "MCVX" := by decide

theorem mem_documentedCodes (cs : List Nat) :
    cs ∈ documentedCodes ↔ ∃ n, ValidName n ∧ cs = render n := by
  simp only [documentedCodes_eq, List.mem_map, mem_allNames, eq_comm]

theorem toNat_map_injective (l l' : List Char) (h : l.map Char.toNat = l'.map Char.toNat) : l = l' :=
  (List.map_inj_right (fun _ _ e => Char.toNat_inj.1 e)).1 h

theorem codes_injective (s t : String) (h : codes s = codes t) : s = t :=
  String.toList_inj.1 (toNat_map_injective _ _ h)

theorem codes_nodup : a16Codes.Nodup ∧ pwbCodes.Nodup := by
  obtain ⟨h1, -, h2, -⟩ := board_tables_distinct
  have inj : ∀ a b : String, a ≠ b → codes a ≠ codes b := fun a b h e => h (codes_injective a b e)
  exact ⟨by have := List.Pairwise.map codes inj h1; rwa [List.map_map] at this,
    by have := List.Pairwise.map codes inj h2; rwa [List.map_map] at this⟩

theorem adc16Name_ok_iff (cs : List Nat) (p : Nat × Nat) : adc16Name cs = .ok p ↔
    (p.1 < alpha16Boards.length ∧ p.2 < 16) ∧ cs = 66 :: (a16Codes.getD p.1 [] ++ [digitCode p.2]) :=
  adcName_ok_iff 66 16 15 ⟨rfl, rfl⟩ (by omega) (by omega) (by omega) codes_nodup.1 board_codes.1 cs p

theorem adc32Name_ok_iff (cs : List Nat) (p : Nat × Nat) : adc32Name cs = .ok p ↔
    (p.1 < alpha16Boards.length ∧ p.2 < 32) ∧ cs = 67 :: (a16Codes.getD p.1 [] ++ [digitCode p.2]) :=
  adcName_ok_iff 67 32 31 ⟨rfl, rfl⟩ (by omega) (by omega) (by omega) codes_nodup.1 board_codes.1 cs p

theorem adc16Name_noPanic (cs : List Nat) : NoPanic (adc16Name cs) :=
  adcName_noPanic 66 16 15 (by omega) (by omega) (by omega) cs

theorem adc32Name_noPanic (cs : List Nat) : NoPanic (adc32Name cs) :=
  adcName_noPanic 67 32 31 (by omega) (by omega) (by omega) cs

theorem alpha16Name_cases (cs : List Nat) :
    alpha16Name cs = mapOut id (fun p => ⟨.adc32, p.1, p.2⟩) (adc32Name cs)
    ∨ alpha16Name cs = mapOut id (fun p => ⟨.adc16, p.1, p.2⟩) (adc16Name cs)
    ∨ alpha16Name cs = .err .patternMismatch := by
  unfold alpha16Name
  split
  · exact Or.inl rfl
  · split
    · exact Or.inr (Or.inl rfl)
    · exact Or.inr (Or.inr rfl)

theorem mainName_cases (cs : List Nat) :
    mainName cs = mapOut (fun _ => .badTrigger) (fun _ => ⟨.trg, 0, 0⟩) (literalName triggerName cs)
    ∨ mainName cs = mapOut .badAlpha16 id (alpha16Name cs)
    ∨ mainName cs = mapOut .badPadwing (fun b => ⟨.padwing, b, 0⟩) (padwingName cs)
    ∨ mainName cs = mapOut (fun _ => .badTrb3) (fun _ => ⟨.trb3, 0, 0⟩) (literalName trb3Name cs)
    ∨ mainName cs = mapOut (fun _ => .badMcVertex) (fun _ => ⟨.mcvx, 0, 0⟩) (literalName mcVertexName cs)
    ∨ mainName cs = .err .patternMismatch := by
  unfold mainName
  split
  · exact Or.inl rfl
  · split
    · exact Or.inr (Or.inl rfl)
    · split
      · exact Or.inr (Or.inr (Or.inl rfl))
      · split
        · exact Or.inr (Or.inr (Or.inr (Or.inl rfl)))
        · split
          · exact Or.inr (Or.inr (Or.inr (Or.inr (Or.inl rfl))))
          · exact Or.inr (Or.inr (Or.inr (Or.inr (Or.inr rfl))))

theorem mainName_ok (cs : List Nat) (n : Name) (h : mainName cs = .ok n) :
    ValidName n ∧ cs = render n := by
  rcases mainName_cases cs with e | e | e | e | e | e <;> rw [e] at h
  · obtain ⟨u, hu, rfl⟩ := mapOut_ok.1 h
    exact ⟨⟨rfl, rfl⟩, (literalName_ok _ _ _).1 hu⟩
  · obtain ⟨m, hm, rfl⟩ := mapOut_ok.1 h
    rcases alpha16Name_cases cs with e | e | e <;> rw [e] at hm
    · obtain ⟨p, hp, rfl⟩ := mapOut_ok.1 hm
      exact (adc32Name_ok_iff _ _).1 hp
    · obtain ⟨p, hp, rfl⟩ := mapOut_ok.1 hm
      exact (adc16Name_ok_iff _ _).1 hp
    · cases hm
  · obtain ⟨b, hb, rfl⟩ := mapOut_ok.1 h
    obtain ⟨h1, h2⟩ := (padwingName_ok_iff codes_nodup.2 board_codes.2 _ _).1 hb
    exact ⟨⟨h1, rfl⟩, h2⟩
  · obtain ⟨u, hu, rfl⟩ := mapOut_ok.1 h
    exact ⟨⟨rfl, rfl⟩, (literalName_ok _ _ _).1 hu⟩
  · obtain ⟨u, hu, rfl⟩ := mapOut_ok.1 h
    exact ⟨⟨rfl, rfl⟩, (literalName_ok _ _ _).1 hu⟩
  · cases h

theorem mainName_prefix (t : List Nat) :
    mainName (66 :: t) = mapOut .badAlpha16 id (mapOut id (fun p => ⟨.adc16, p.1, p.2⟩) (adc16Name (66 :: t)))
    ∧ mainName (67 :: t) = mapOut .badAlpha16 id (mapOut id (fun p => ⟨.adc32, p.1, p.2⟩) (adc32Name (67 :: t)))
    ∧ mainName (80 :: t) = mapOut .badPadwing (fun b => ⟨.padwing, b, 0⟩) (padwingName (80 :: t)) :=
  ⟨rfl, rfl, rfl⟩

theorem mainName_render (n : Name) (hv : ValidName n) : mainName (render n) = .ok n := by
  obtain ⟨k, b, c⟩ := n
  cases k <;> simp only [ValidName] at hv
  · exact (mainName_prefix _).1.trans (by rw [(adc16Name_ok_iff _ (b, c)).2 ⟨hv, rfl⟩]; rfl)
  · exact (mainName_prefix _).2.1.trans (by rw [(adc32Name_ok_iff _ (b, c)).2 ⟨hv, rfl⟩]; rfl)
  · obtain ⟨hb, rfl⟩ := hv
    exact (mainName_prefix _).2.2.trans (by rw [(padwingName_ok_iff codes_nodup.2 board_codes.2 _ b).2 ⟨hb, rfl⟩]; rfl)
  · obtain ⟨rfl, rfl⟩ := hv; exact mainName_literals.1
  · obtain ⟨rfl, rfl⟩ := hv; exact mainName_literals.2.1
  · obtain ⟨rfl, rfl⟩ := hv; exact mainName_literals.2.2

theorem mainName_ok_iff (cs : List Nat) (n : Name) :
    mainName cs = .ok n ↔ ValidName n ∧ cs = render n :=
  ⟨mainName_ok cs n, fun ⟨hv, e⟩ => e ▸ mainName_render n hv⟩

theorem mem_documentedNames (s : String) : s ∈ documentedNames ↔ codes s ∈ documentedCodes := by
  simp only [documentedNames, documentedCodes, codes, List.mem_map]
  refine exists_congr fun l => and_congr_right fun _ => ⟨?_, fun h => ?_⟩
  · rintro rfl; rw [String.toList_ofList]
  · rw [toNat_map_injective _ _ h, String.ofList_toList]

/-- **C08 name_accept_iff.** Among *all* strings (any length, any Unicode) exactly the documented
main-event bank names are accepted. -/
theorem name_accept_iff (s : String) : (∃ n, parseBankName s = .ok n) ↔ s ∈ documentedNames := by
  rw [mem_documentedNames, mem_documentedCodes]
  exact exists_congr fun n => mainName_ok_iff (codes s) n

/-- **C08 name_injective.** Distinct accepted names denote distinct (kind, board, channel). -/
theorem name_injective (s t : String) (n : Name) (hs : parseBankName s = .ok n)
    (ht : parseBankName t = .ok n) : s = t :=
  codes_injective s t (((mainName_ok _ _ hs).2).trans ((mainName_ok _ _ ht).2).symm)

/-- **C08 name_denotes_one.** A documented name denotes exactly one (kind, board, channel), and
that triple exists. -/
theorem name_denotes_one (s : String) (h : s ∈ documentedNames) :
    ∃ n, parseBankName s = .ok n ∧ ValidName n ∧ ∀ m, parseBankName s = .ok m → m = n := by
  obtain ⟨n, hn⟩ := (name_accept_iff s).2 h
  exact ⟨n, hn, (mainName_ok _ _ hn).1, fun m hm => (ok_eq_ok.1 (hn.symm.trans hm)).symm⟩

/-- Every existing (kind, board, channel) has a name (the parser is onto the valid triples). -/
theorem name_surjective (n : Name) (h : ValidName n) :
    ∃ s, s ∈ documentedNames ∧ parseBankName s = .ok n := by
  obtain ⟨l, hl, e⟩ := List.mem_map.1 ((mem_documentedCodes _).2 ⟨n, h, rfl⟩)
  refine ⟨String.ofList l, List.mem_map.2 ⟨l, hl, rfl⟩, ?_⟩
  have e2 : codes (String.ofList l) = render n := by
    unfold codes; rw [String.toList_ofList]; exact e
  unfold parseBankName
  rw [e2]; exact mainName_render n h

theorem alpha16Name_noPanic (cs : List Nat) : NoPanic (alpha16Name cs) := by
  rcases alpha16Name_cases cs with e | e | e <;> rw [e]
  · exact mapOut_noPanic (adc32Name_noPanic cs)
  · exact mapOut_noPanic (adc16Name_noPanic cs)
  · exact noPanic_err _

theorem mainName_noPanic (cs : List Nat) : NoPanic (mainName cs) := by
  rcases mainName_cases cs with e | e | e | e | e | e <;> rw [e]
  · exact mapOut_noPanic (literalName_noPanic _ _)
  · exact mapOut_noPanic (alpha16Name_noPanic _)
  · exact mapOut_noPanic (padwingName_noPanic _)
  · exact mapOut_noPanic (literalName_noPanic _ _)
  · exact mapOut_noPanic (literalName_noPanic _ _)
  · exact noPanic_err _

/-- **C01 (bank names) bankName_total.** `MainEventBankName::try_from` panics on no string: the
ASCII screening guarantees that every later `&name[a..][..b]` is on a character boundary, the
radix is legal and the channel `unwrap` cannot fail. -/
theorem bankName_total (s : String) : NoPanic (parseBankName s) := mainName_noPanic _

/-- The sub-parsers, called directly, are total as well. -/
theorem subParsers_total (s : String) :
    NoPanic (adc16Name (codes s)) ∧ NoPanic (adc32Name (codes s)) ∧ NoPanic (alpha16Name (codes s))
    ∧ NoPanic (padwingName (codes s)) ∧ NoPanic (literalName triggerName (codes s))
    ∧ NoPanic (literalName trb3Name (codes s)) ∧ NoPanic (literalName mcVertexName (codes s))
    ∧ NoPanic (parseSeq2BankName s) :=
  ⟨adc16Name_noPanic _, adc32Name_noPanic _, alpha16Name_noPanic _, padwingName_noPanic _,
    literalName_noPanic _ _, literalName_noPanic _ _, literalName_noPanic _ _, literalName_noPanic _ _⟩

theorem chronoboxAux_ok (l : List (List Nat × List Nat)) (cs : List Nat) (i : Nat)
    (h : chronoboxNameAux l cs = .ok i) : cs ∈ l.map (fun p => p.1) := by
  induction l with
  | nil => simp [chronoboxNameAux] at h
  | cons p l ih =>
    obtain ⟨bank, board⟩ := p
    simp only [chronoboxNameAux] at h
    split at h
    · subst_vars; simp
    · simp only [List.map_cons, List.mem_cons]; exact Or.inr (ih h)

theorem chronoboxAux_noPanic (l : List (List Nat × List Nat))
    (hl : l.all (fun p => (lookupIdx cbCodes p.2).isSome) = true) (cs : List Nat) :
    NoPanic (chronoboxNameAux l cs) := by
  induction l with
  | nil => exact noPanic_err _
  | cons p l ih =>
    obtain ⟨bank, board⟩ := p
    simp only [List.all_cons, Bool.and_eq_true] at hl
    simp only [chronoboxNameAux]
    split
    · exact noPanic_need hl.1 (noPanic_ok _)
    · exact ih hl.2

theorem chronobox_tables :
    cbBankCodes.map (fun p => p.1) = documentedChronoboxNames.map codes
    ∧ cbBankCodes.all (fun p => (lookupIdx cbCodes p.2).isSome) = true
    ∧ (documentedChronoboxNames.map fun s => parseChronoboxBankName s)
        = [.ok 0, .ok 1, .ok 2, .ok 3]
    ∧ chronoboxNames = ["cb01", "cb02", "cb03", "cb04"] ∧ numInputChannels = 59 := by
  decide +kernel

/-- **C08 (Chronobox).** Exactly `CBF1 … CBF4` are accepted (and denote `cb01 … cb04`,
see `chronobox_tables`). -/
theorem chronobox_accept_iff (s : String) :
    (∃ i, parseChronoboxBankName s = .ok i) ↔ s ∈ documentedChronoboxNames := by
  constructor
  · rintro ⟨i, hi⟩
    have := chronoboxAux_ok _ _ _ hi
    rw [chronobox_tables.1, List.mem_map] at this
    obtain ⟨t, ht, e⟩ := this
    rw [← codes_injective _ _ e]; exact ht
  · intro h
    have := List.mem_map_of_mem (f := fun s => parseChronoboxBankName s) h
    rw [chronobox_tables.2.2.1] at this
    simp only [List.mem_cons, List.not_mem_nil, or_false] at this
    rcases this with e | e | e | e <;> exact ⟨_, e⟩

theorem chronobox_total (s : String) : NoPanic (parseChronoboxBankName s) :=
  chronoboxAux_noPanic _ chronobox_tables.2.1 _

/-- **C08 (sequencer).** Exactly `SEQ2` is accepted. -/
theorem seq2_accept_iff (s : String) : parseSeq2BankName s = .ok () ↔ s ∈ documentedSeq2Names := by
  unfold parseSeq2BankName seq2BankName
  rw [literalName_ok]
  have : Generated.seq2Name = "SEQ2" := by decide
  rw [this]
  simp only [documentedSeq2Names, List.mem_cons, List.not_mem_nil, or_false]
  constructor
  · exact codes_injective _ _
  · rintro rfl; rfl

/-- `EventId::try_from` accepts exactly 1, 4 and 8. -/
theorem eventId_accept_iff (n : Nat) : (∃ v, eventId n = .ok v) ↔ n = 1 ∨ n = 4 ∨ n = 8 := by
  have e : eventIds = [(1, "Main"), (4, "Chronobox"), (8, "Sequencer2")] := by decide
  unfold eventId
  rw [e]
  by_cases h1 : n = 1
  · subst h1; simp [List.find?]
  · by_cases h4 : n = 4
    · subst h4; simp [List.find?]
    · by_cases h8 : n = 8
      · subst h8; simp [List.find?]
      · have a1 : ((1 : Nat) == n) = false := by simp; omega
        have a4 : ((4 : Nat) == n) = false := by simp; omega
        have a8 : ((8 : Nat) == n) = false := by simp; omega
        simp [List.find?, a1, a4, a8, h1, h4, h8]

example : parseBankName "B09A" = .ok ⟨.adc16, 0, 10⟩ := by decide +kernel
example : parseBankName "C18V" = .ok ⟨.adc32, 7, 31⟩ := by decide +kernel
example : parseBankName "C18W" = .err (.badAlpha16 .unknownChannelId) := by decide +kernel
example : parseBankName "B09a" = .err (.badAlpha16 .patternMismatch) := by decide +kernel
example : parseBankName "Bé1" = .err (.badAlpha16 .patternMismatch) := by decide +kernel
example : "B09A" ∈ documentedNames ∧ "PC12" ∈ documentedNames ∧ "ATAT" ∈ documentedNames := by
  decide +kernel
example : documentedNames.length = 458 := by decide +kernel
example : ValidName ⟨.adc32, 7, 31⟩ := by simp only [ValidName]; decide
example : byteLen (codes "Bé1") = 4 ∧ (codes "Bé1").length = 3 := by decide +kernel

end AlphaG.BankName
