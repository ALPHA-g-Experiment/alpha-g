import AlphaG.Lemmas.ChronoboxRaw
/-
C07 — Chronobox FIFO parsing is faithful, resumable and split-invariant
(and the chronobox part of C01: totality and progress).

The specification (`specWord`, `Item`, `IsParse`) is written from the property text on
*fields* of the 32-bit little-endian word (`/`, `%`), independently of the parser model, which
uses the code's masks and the code's control flow.
-/
namespace AlphaG.Chronobox

/-- The 32-bit little-endian value of a 4-byte FIFO word. -/
def word32 (b0 b1 b2 b3 : UInt8) : Nat := leAt [b0, b1, b2, b3] 0 4

/-- A word is an entry when its top byte is `0x80 | channel` with `channel < 59` (timestamp)
or `0xFF` (wrap-around marker). -/
def IsEntryWord (w : Nat) : Prop :=
  (0x80 ≤ w / 2 ^ 24 ∧ w / 2 ^ 24 - 0x80 < 59) ∨ w / 2 ^ 24 = 0xFF

/-- Documented meaning of a word: timestamp words carry the channel in the low 7 bits of the top
byte, the edge in bit 0 and the 24-bit timestamp (bit 0 cleared) in the low three bytes; marker
words carry the timestamp's top bit in bit 23 and a 23-bit counter below it. -/
def specWord (w : Nat) : Word :=
  if 0x80 ≤ w / 2 ^ 24 ∧ w / 2 ^ 24 - 0x80 < 59 then
    .ts (w / 2 ^ 24 - 0x80) (decide (w % 2 = 1)) (w % 2 ^ 24 - w % 2)
  else if w / 2 ^ 24 = 0xFF then
    .marker (decide (w / 2 ^ 23 % 2 = 1)) (w % 2 ^ 23)
  else .other

def tag : List UInt8 := [0x3C, 0x00, 0x00, 0xFE]

inductive Item where
  | word (b0 b1 b2 b3 : UInt8)
  | block (payload : List UInt8)

/-- A word item must be an entry word; a block is the tag followed by 59×4 + 4 bytes
(244 bytes in all). -/
def Item.Valid : Item → Prop
  | .word b0 b1 b2 b3 => IsEntryWord (word32 b0 b1 b2 b3)
  | .block p => p.length = 240

def Item.bytes : Item → List UInt8
  | .word b0 b1 b2 b3 => [b0, b1, b2, b3]
  | .block p => tag ++ p

def Item.entry? : Item → Option Entry
  | .word b0 b1 b2 b3 => (specWord (word32 b0 b1 b2 b3)).entry?
  | .block _ => none

def flatten (items : List Item) : List UInt8 := (items.map Item.bytes).flatten

/-- The entries a sequence of items denotes: the word items' entries, in order. -/
def entriesOf (items : List Item) : List Entry := items.filterMap Item.entry?

def StartsWithItem (r : List UInt8) : Prop := ∃ (it : Item) (rest : List UInt8), it.Valid ∧ r = it.bytes ++ rest

/-- `items` is *the* parse of `input` with remainder `rest`: the input is the items' bytes
followed by `rest` (so `rest` is literally a suffix of the input) and no further item starts at
`rest` (longest prefix). -/
structure IsParse (items : List Item) (rest input : List UInt8) : Prop where
  valid : ∀ it ∈ items, it.Valid
  split : input = flatten items ++ rest
  maximal : ¬ StartsWithItem rest

def Entry.InRange : Entry → Prop
  | .ts ch _ t => ch < 59 ∧ t < 2 ^ 24 ∧ t % 2 = 0
  | .marker _ c => c < 2 ^ 23

theorem u24_lt (b0 b1 b2 : UInt8) : u24 b0 b1 b2 < 2 ^ 24 := by
  have h0 : b0.toNat < 256 := UInt8.toNat_lt b0
  have h1 : b1.toNat < 256 := UInt8.toNat_lt b1
  have h2 : b2.toNat < 256 := UInt8.toNat_lt b2
  unfold u24; omega

theorem word32_eq (b0 b1 b2 b3 : UInt8) :
    word32 b0 b1 b2 b3 = u24 b0 b1 b2 + 2 ^ 24 * b3.toNat := by
  simp [word32, leAt, byteAt, u24]; omega

/-- The fields of a word assembled from its low three bytes `t` and its top byte `x`. -/
theorem word_fields (t x : Nat) (ht : t < 2 ^ 24) :
    (t + 2 ^ 24 * x) / 2 ^ 24 = x ∧ (t + 2 ^ 24 * x) % 2 ^ 24 = t ∧ (t + 2 ^ 24 * x) % 2 = t % 2
      ∧ (t + 2 ^ 24 * x) / 2 ^ 23 % 2 = t / 2 ^ 23 ∧ (t + 2 ^ 24 * x) % 2 ^ 23 = t % 2 ^ 23 := by
  refine ⟨?_, ?_, ?_, ?_, ?_⟩ <;> omega

/-- C07 (classification, all 2^32 words): the code's mask tests and mask extractions are the
documented fields. By cases on the top byte; no enumeration. -/
theorem classify_spec (b0 b1 b2 b3 : UInt8) :
    classify b0 b1 b2 b3 = specWord (word32 b0 b1 b2 b3) := by
  have ht : u24 b0 b1 b2 < 2 ^ (23 + 1) := u24_lt b0 b1 b2
  have hx : b3.toNat < 2 ^ (7 + 1) := UInt8.toNat_lt b3
  simp only [classify, specWord, numInputChannels, word32_eq, word_fields _ b3.toNat ht]
  generalize u24 b0 b1 b2 = t at *
  generalize b3.toNat = x at *
  simp only [and_top_eq 1 7 1 hx, and_low x 7, and_low t 1, and_mask t 23 1, and_top_eq 1 23 1 ht,
    and_low t 23]
  -- the marker branches of the two sides are now the same term; only the timestamp branch is left
  by_cases c1 : x / 2 ^ 7 = 1 ∧ x % 2 ^ 7 < 59
  · have c1' : 0x80 ≤ x ∧ x - 0x80 < 59 := by omega
    rw [if_pos c1, if_pos c1']
    have a1 : x % 2 ^ 7 = x - 0x80 := by omega
    have a3 : t / 2 ^ 1 % 2 ^ 23 * 2 ^ 1 = t - t % 2 := by omega
    rw [a1, a3, Nat.pow_one]
  · have c1' : ¬(0x80 ≤ x ∧ x - 0x80 < 59) := by omega
    rw [if_neg c1, if_neg c1']

theorem specWord_ne_other_iff (w : Nat) : specWord w ≠ .other ↔ IsEntryWord w := by
  unfold specWord IsEntryWord
  by_cases c1 : 0x80 ≤ w / 2 ^ 24 ∧ w / 2 ^ 24 - 0x80 < 59
  · simp [c1]
  · by_cases c2 : w / 2 ^ 24 = 0xFF
    · simp [c2]
    · simp [c1, c2]

theorem classify_ne_other_iff (b0 b1 b2 b3 : UInt8) :
    classify b0 b1 b2 b3 ≠ .other ↔ IsEntryWord (word32 b0 b1 b2 b3) := by
  rw [classify_spec]; exact specWord_ne_other_iff _

theorem entry?_isSome_iff (w : Word) : (∃ e, w.entry? = some e) ↔ w ≠ .other := by
  cases w <;> simp [Word.entry?]

/-- C07 (unambiguity): the tag's top byte `0xFE` is neither class, so no byte string starts
with both a word item and a block item. -/
theorem block_not_word : ¬ IsEntryWord (word32 0x3C 0x00 0x00 0xFE) := by
  rw [← classify_ne_other_iff]; simp [classify_tag]

theorem specWord_inRange (w : Nat) (e : Entry) (h : (specWord w).entry? = some e) :
    e.InRange := by
  unfold specWord at h
  split at h
  · rename_i c
    simp only [Word.entry?, Option.some.injEq] at h; subst h
    refine ⟨c.2, ?_, ?_⟩ <;> omega
  · split at h
    · simp only [Word.entry?, Option.some.injEq] at h; subst h
      show w % 2 ^ 23 < 2 ^ 23
      omega
    · simp [Word.entry?] at h

theorem isEntryWord_iff (b0 b1 b2 b3 : UInt8) :
    IsEntryWord (word32 b0 b1 b2 b3) ↔ ∃ e, (classify b0 b1 b2 b3).entry? = some e := by
  rw [entry?_isSome_iff, classify_ne_other_iff]

/-- A successful `block?` in the grammar's terms, as `isEntryWord_iff` is for words; this is
`block?_eq_some` up to unfolding `Item.Valid`, `Item.bytes` and `blockPayload`. -/
theorem block?_iff_item {l r : List UInt8} :
    block? l = some r ↔ ∃ p, (Item.block p).Valid ∧ l = (Item.block p).bytes ++ r :=
  block?_eq_some

theorem IsParse.nil {r : List UInt8} (h : ¬ StartsWithItem r) : IsParse [] r r := ⟨nofun, rfl, h⟩

theorem IsParse.cons {it : Item} {items : List Item} {r i : List UInt8} (hv : it.Valid)
    (h : IsParse items r i) : IsParse (it :: items) r (it.bytes ++ i) :=
  ⟨List.forall_mem_cons.2 ⟨hv, h.valid⟩, by rw [h.split]; simp [flatten], h.maximal⟩

theorem not_starts_of_stop {r : List UInt8} (he : entries r = ([], r)) (hb : block? r = none) :
    ¬ StartsWithItem r := by
  rintro ⟨it, rest, hv, rfl⟩
  cases it with
  | word b0 b1 b2 b3 =>
    obtain ⟨e, hc⟩ := (isEntryWord_iff _ _ _ _).1 hv
    cases (entries_cons_some rest hc).symm.trans he
  | block p => cases hb.symm.trans (block?_iff_item.2 ⟨p, hv, rfl⟩)

theorem not_starts_of_short {r : List UInt8} (h : r.length < 4) : ¬ StartsWithItem r := by
  rintro ⟨it, rest, -, rfl⟩
  cases it <;> simp [Item.bytes, tag] at h <;> omega

theorem not_starts_nil : ¬ StartsWithItem [] := not_starts_of_short (by simp)

theorem not_starts_incomplete_block {r : List UInt8} (h4 : r.take 4 = tag) (h : r.length < 244) :
    ¬ StartsWithItem r := by
  rintro ⟨it, rest, hv, rfl⟩
  cases it with
  | word b0 b1 b2 b3 =>
    have h4 : [b0, b1, b2, b3] = [0x3C, 0x00, 0x00, 0xFE] := h4
    cases h4
    exact block_not_word hv
  | block p =>
    have hp : p.length = 240 := hv
    simp [Item.bytes, tag, hp] at h
    omega

/-- A run of entries is a run of word items in front of whatever its remainder parses to. -/
theorem entries_isParse (l : List UInt8) {items : List Item} {r : List UInt8}
    (h : IsParse items r (entries l).2) :
    ∃ items', IsParse items' r l ∧ entriesOf items' = (entries l).1 ++ entriesOf items := by
  induction l using entries_induct with
  | word b0 b1 b2 b3 rest e hc ih =>
    rw [entries_cons_some rest hc] at h ⊢
    obtain ⟨its, hp, he⟩ := ih h
    refine ⟨.word b0 b1 b2 b3 :: its,
      hp.cons (it := .word b0 b1 b2 b3) ((isEntryWord_iff _ _ _ _).2 ⟨e, hc⟩), ?_⟩
    have : entriesOf (.word b0 b1 b2 b3 :: its) = e :: entriesOf its := by
      simp [entriesOf, Item.entry?, ← classify_spec, hc]
    rw [this, he]; rfl
  | stop l hs => rw [hs] at h ⊢; exact ⟨items, h, rfl⟩

/-- Soundness: the parser's answer is a grammar decomposition of its input. -/
theorem parse_isParse (i : List UInt8) :
    ∃ items, IsParse items (parse i).2 i ∧ (parse i).1 = entriesOf items := by
  fun_induction parse i with
  | case1 l r' h ih =>
    obtain ⟨items', hp', he'⟩ := ih
    obtain ⟨p, hv, hbl⟩ := block?_iff_item.1 h
    obtain ⟨items, hpi, hei⟩ := entries_isParse l (hbl ▸ hp'.cons hv)
    exact ⟨items, hpi, by rw [hei, he']; rfl⟩
  | case2 l h =>
    obtain ⟨items, hpi, hei⟩ := entries_isParse l (.nil (not_starts_of_stop (entries_idem l) h))
    exact ⟨items, hpi, by simpa [entriesOf] using hei.symm⟩

theorem item_prefix_unique {a b : Item} {x y : List UInt8} (ha : a.Valid) (hb : b.Valid)
    (h : a.bytes ++ x = b.bytes ++ y) : a = b ∧ x = y := by
  cases a with
  | word a0 a1 a2 a3 =>
    cases b with
    | word c0 c1 c2 c3 =>
      simp only [Item.bytes, List.cons_append, List.nil_append, List.cons.injEq] at h
      obtain ⟨rfl, rfl, rfl, rfl, rfl⟩ := h
      exact ⟨rfl, rfl⟩
    | block q =>
      simp only [Item.bytes, tag, List.cons_append, List.nil_append, List.cons.injEq] at h
      obtain ⟨rfl, rfl, rfl, rfl, -⟩ := h
      exact absurd ha block_not_word
  | block p =>
    cases b with
    | word c0 c1 c2 c3 =>
      simp only [Item.bytes, tag, List.cons_append, List.nil_append, List.cons.injEq] at h
      obtain ⟨rfl, rfl, rfl, rfl, -⟩ := h
      exact absurd hb block_not_word
    | block q =>
      have hp : p.length = 240 := ha
      have hq : q.length = 240 := hb
      simp only [Item.bytes, List.append_assoc] at h
      have h' := List.append_cancel_left h
      obtain ⟨rfl, rfl⟩ := List.append_inj h' (by omega)
      exact ⟨rfl, rfl⟩

/-- C07 (unambiguity): a byte string has at most one longest-prefix decomposition — same
items, same remainder (`block_not_word` is what rules out reading a block's tag as a word). -/
theorem isParse_unique {items items' : List Item} {r r' i : List UInt8}
    (h : IsParse items r i) (h' : IsParse items' r' i) : items = items' ∧ r = r' := by
  obtain ⟨hv, hs, hm⟩ := h
  obtain ⟨hv', hs', hm'⟩ := h'
  have heq : flatten items ++ r = flatten items' ++ r' := by rw [← hs, ← hs']
  clear hs hs'
  induction items generalizing items' with
  | nil =>
    cases items' with
    | nil => exact ⟨rfl, by simpa [flatten] using heq⟩
    | cons it' rest' =>
      refine absurd ⟨it', flatten rest' ++ r', hv' it' List.mem_cons_self, ?_⟩ hm
      simpa [flatten] using heq
  | cons it rest ih =>
    cases items' with
    | nil =>
      refine absurd ⟨it, flatten rest ++ r, hv it List.mem_cons_self, ?_⟩ hm'
      simpa [flatten] using heq.symm
    | cons it' rest' =>
      have e : it.bytes ++ (flatten rest ++ r) = it'.bytes ++ (flatten rest' ++ r') := by
        simpa [flatten] using heq
      obtain ⟨rfl, e'⟩ := item_prefix_unique (hv it List.mem_cons_self)
        (hv' it' List.mem_cons_self) e
      obtain ⟨rfl, rfl⟩ := ih (fun x hx => hv x (List.mem_cons_of_mem _ hx))
        (fun x hx => hv' x (List.mem_cons_of_mem _ hx)) e'
      exact ⟨rfl, rfl⟩

/-- Completeness: the parser's answer is a decomposition (`parse_isParse`) and there is only one
(`isParse_unique`), so whatever decomposition satisfies the grammar is what the parser returns. -/
theorem isParse_parse {items : List Item} {r i : List UInt8} (h : IsParse items r i) :
    parse i = (entriesOf items, r) := by
  obtain ⟨items', hp, he⟩ := parse_isParse i
  obtain ⟨rfl, rfl⟩ := isParse_unique h hp
  exact Prod.ext he rfl

theorem parse_of_not_starts {r : List UInt8} (h : ¬ StartsWithItem r) : parse r = ([], r) :=
  isParse_parse (.nil h)

theorem parse_nil : parse [] = ([], []) := parse_of_not_starts not_starts_nil

/-- C07 (faithfulness): `parse` returns `(es, r)` exactly when the input is a sequence of valid
items followed by `r`, `es` are the items' entries in order, and no item starts at `r`: the
longest-prefix decomposition, with `r` literally a suffix of the input. -/
theorem parse_sound_complete (i : List UInt8) (es : List Entry) (r : List UInt8) :
    parse i = (es, r) ↔ ∃ items, IsParse items r i ∧ es = entriesOf items := by
  constructor
  · intro h
    obtain ⟨items, hp, he⟩ := parse_isParse i
    rw [h] at hp he
    exact ⟨items, hp, he⟩
  · rintro ⟨items, hp, rfl⟩
    exact isParse_parse hp

/-- C07: the unconsumed remainder is literally a suffix of the input. -/
theorem parse_rest_suffix (i : List UInt8) : (parse i).2 <:+ i := by
  obtain ⟨items, hp, -⟩ := parse_isParse i
  exact ⟨flatten items, hp.split.symm⟩

/-- C07 (fields): every returned entry is the documented reading (`specWord`) of a word item of
the consumed prefix, in order, and its fields are in range: channel < 59, 24-bit timestamp with
bit 0 (the edge) cleared, 23-bit counter. -/
theorem parse_fields (i : List UInt8) (es : List Entry) (r : List UInt8) (h : parse i = (es, r)) :
    ∃ items, IsParse items r i ∧ es = items.filterMap Item.entry? ∧ ∀ e ∈ es, e.InRange := by
  obtain ⟨items, hp, he⟩ := (parse_sound_complete i es r).1 h
  refine ⟨items, hp, he, ?_⟩
  intro e hmem
  rw [he] at hmem
  obtain ⟨it, -, hit⟩ := List.mem_filterMap.1 hmem
  cases it with
  | word b0 b1 b2 b3 => exact specWord_inRange _ _ hit
  | block p => simp [Item.entry?] at hit

/-- C07 (resume): parse `a`, append `b` to the remainder, parse again: the entries concatenate
to, and the remainder equals, those of parsing `a ++ b` at once. -/
theorem parse_resume (a b : List UInt8) (e₁ e₂ : List Entry) (r₁ r₂ : List UInt8)
    (h₁ : parse a = (e₁, r₁)) (h₂ : parse (r₁ ++ b) = (e₂, r₂)) :
    parse (a ++ b) = (e₁ ++ e₂, r₂) := by
  rw [parse_append, h₁, h₂]

theorem foldl_feedStep (a : List UInt8) (pieces : List (List UInt8)) :
    pieces.foldl feedStep (parse a) = parse (a ++ pieces.flatten) := by
  induction pieces generalizing a with
  | nil => simp
  | cons p ps ih =>
    have : feedStep (parse a) p = parse (a ++ p) := by
      unfold feedStep; rw [← parse_append]
    rw [List.foldl_cons, this, ih]
    simp [List.append_assoc]

/-- C07 (split invariance): the resume protocol over *any* list of pieces — any number, any
sizes, empty pieces included — yields exactly the entries and the remainder of parsing the
concatenation in one call. -/
theorem feedAll_eq_whole (pieces : List (List UInt8)) : feedAll pieces = parse pieces.flatten := by
  have := foldl_feedStep [] pieces
  rw [parse_nil] at this
  simpa [feedAll] using this

/-- C01/C07 (progress): every entry accounts for four consumed bytes:
`4·entries + remainder ≤ input`, hence `entries ≤ input / 4`. -/
theorem parse_progress (i : List UInt8) :
    4 * (parse i).1.length + (parse i).2.length ≤ i.length ∧ (parse i).1.length ≤ i.length / 4 := by
  have := parse_length i
  omega

/-- C01/C07 (totality): `chronobox_fifo`, transcribed combinator by combinator from winnow
(`Raw.chronoboxFifo`: backtracking, the "parsers must always consume" assertions of `repeat`
and `separated_foldl1`, and the final `.unwrap()` as panic sites), returns `parse i` on every
input — the `unwrap` is on a parser that always succeeds and no assertion is reachable. -/
theorem parse_total (i : List UInt8) :
    Raw.chronoboxFifo i = .ok (parse i) ∧ NoPanic (Raw.chronoboxFifo i) := by
  refine ⟨Raw.chronoboxFifo_eq i, ?_⟩
  rw [Raw.chronoboxFifo_eq]; exact noPanic_ok _

/-- C01: `ChannelId::try_from(u8)` never panics. -/
theorem channelId_total (n : Nat) : NoPanic (channelId n) := by
  rw [channelId_eq]; split
  · exact noPanic_ok _
  · exact noPanic_err _

/-- `ChannelId::try_from(u8)` accepts exactly the numbers below 59 and keeps the value. -/
theorem channelId_ok_iff (n c : Nat) : channelId n = .ok c ↔ n < 59 ∧ c = n := by
  rw [channelId_eq]; unfold numInputChannels
  by_cases h : n < 59
  · simp [h, eq_comm]
  · simp [h]

theorem boardId_eq (name : String) :
    boardId name = if name ∈ boardNames then .ok name else .err () := by
  unfold boardId
  split
  · rename_i n h
    have := List.find?_some h
    rw [beq_iff_eq] at this; subst this
    rw [if_pos (List.mem_of_find?_eq_some h)]
  · rename_i h
    rw [if_neg fun hm => by simpa using List.find?_eq_none.1 h name hm]

/-- C01: `BoardId::try_from(&str)` never panics. -/
theorem boardId_total (name : String) : NoPanic (boardId name) := by
  rw [boardId_eq]; split
  · exact noPanic_ok _
  · exact noPanic_err _

/-- `BoardId::try_from(&str)` accepts exactly `cb01`…`cb04` and returns the name itself. -/
theorem boardId_ok_iff (name n : String) :
    boardId name = .ok n ↔ name ∈ ["cb01", "cb02", "cb03", "cb04"] ∧ n = name := by
  rw [boardId_eq]
  split <;> simp_all [boardNames, eq_comm]

/-- Non-vacuity: a stream cut inside a timestamp word and inside a scalers block. First piece:
half of a timestamp word. -/
def exPiece1 : List UInt8 := [0x10, 0x00]
/-- Second piece: the other half, then the tag and 100 payload bytes (which look like timestamp
top bytes) of a scalers block. -/
def exPiece2 : List UInt8 := [0x00, 0x85] ++ tag ++ List.replicate 100 0x85
/-- Third piece: the remaining 140 payload bytes (which look like markers), then a marker. -/
def exPiece3 : List UInt8 := List.replicate 140 0xFF ++ [0x01, 0x00, 0x80, 0xFF]

instance (w : Nat) : Decidable (IsEntryWord w) := by unfold IsEntryWord; infer_instance
instance (it : Item) : Decidable it.Valid := by cases it <;> (unfold Item.Valid; infer_instance)

/-- Nothing can be parsed from half a word; it is kept as the remainder. -/
theorem ex_step1 : parse exPiece1 = ([], exPiece1) :=
  parse_of_not_starts (not_starts_of_short (by decide))

/-- The completed word is returned; the incomplete block is kept as the remainder. -/
theorem ex_step2 :
    parse (exPiece1 ++ exPiece2) = ([.ts 5 false 16], tag ++ List.replicate 100 0x85) :=
  isParse_parse (items := [.word 0x10 0x00 0x00 0x85])
    ((IsParse.nil (not_starts_incomplete_block (by rfl) (by simp [tag]))).cons (by decide))

/-- The completed block is skipped, the marker after it is returned, nothing remains. -/
theorem ex_step3 :
    parse ((tag ++ List.replicate 100 0x85) ++ exPiece3) = ([.marker true 1], []) :=
  isParse_parse (items := [.block (List.replicate 100 0x85 ++ List.replicate 140 0xFF),
      .word 0x01 0x00 0x80 0xFF])
    (((IsParse.nil not_starts_nil).cons (by decide)).cons
      (by simp only [Item.Valid, List.length_append, List.length_replicate]))

/-- The resume protocol on the three pieces returns the two entries and an empty remainder —
the same as the one-shot parse of the concatenation (`feedAll_eq_whole`). -/
theorem ex_feed :
    feedAll [exPiece1, exPiece2, exPiece3] = ([.ts 5 false 16, .marker true 1], []) := by
  simp only [feedAll, List.foldl, feedStep, List.nil_append, ex_step1, ex_step2, ex_step3,
    List.cons_append]

example : parse (exPiece1 ++ exPiece2 ++ exPiece3) = ([.ts 5 false 16, .marker true 1], []) := by
  have := feedAll_eq_whole [exPiece1, exPiece2, exPiece3]
  rw [ex_feed] at this
  simpa using this.symm


/-! ### What a polling caller relies on: re-parsing the remainder alone makes no progress and
loses nothing (`parse_remainder_stable`), and feeding more bytes never retracts or reorders
entries already returned (`parse_entries_monotone`). -/

/-- C07 (stability): the remainder is a fixed point — parsing it again returns no entry and the
same remainder, so a caller that polls with no new data neither loses nor duplicates anything. -/
theorem parse_remainder_stable (i : List UInt8) : parse (parse i).2 = ([], (parse i).2) := by
  obtain ⟨_, hp, -⟩ := parse_isParse i
  exact parse_of_not_starts hp.maximal

/-- C07 (monotonicity): appending bytes only appends entries: what was returned for `a` is a
prefix of what is returned for `a ++ b`. -/
theorem parse_entries_monotone (a b : List UInt8) : (parse a).1 <+: (parse (a ++ b)).1 := by
  rw [parse_append]; exact List.prefix_append _ _

/-- Non-vacuity: `exPiece1` (half a word) parses to nothing and is its own remainder. -/
example : parse (parse exPiece1).2 = ([], exPiece1) := by
  have := parse_remainder_stable exPiece1
  rw [ex_step1] at this ⊢; exact this

end AlphaG.Chronobox
