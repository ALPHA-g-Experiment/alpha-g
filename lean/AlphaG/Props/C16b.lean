import AlphaG.Props.C16
import Mathlib.Analysis.Convex.Deriv
import Mathlib.Topology.Order.Compact
import Mathlib.Topology.Order.MonotoneConvergence
/-
C16b — real-analysis theorems narrowing the optimality gap of C16 (`Helix::closest_t`, h ≠ 0).

All statements are over ℝ (exact arithmetic), about the squared distance `AlphaG.Helix.distSq`
of Props/C16.lean and about Kepler's equation `E − e sin E = M` as the code sets it up
(`e = 4π²ρR/h²`, Newton started at ±π).

The squared distance is `R² + ρ² − 2Rρ cos(t + φ₀ − δ) + (h t/2π + z₀ − p_z)²` (`distSq_formula`),
and its derivative at the code's `t(E)` is Kepler's residual (`S1_eq_kepler`). The hypothesis
`|e| < 1` is written division-free, `4π²ρ|R| < h²` (`e_lt_one_iff`; no sign condition on `R`).
Under it the distance is strictly convex, so every Kepler root maps back to the global minimiser
and the final clamp yields the minimiser over `[−π, π]`. For `0 ≤ e < 1` Newton's iteration from
the code's start (`±π` by the sign of `M ∈ (−π, π]`) stays between the unique root and the start,
is monotone and converges to the root; the model's own loop `newton realOps` returns one of the
iterates (`newton_real_eq_newtonSeq`), so its result lies in the same interval.
For `e ≥ 1` the argument stops: the derivative of Kepler's function has a zero, and for `e > 1`
the distance is not convex.

NOT proved (stays with the harness oracle): anything about `f64` rounding, about the result after
≤ 20 iterations with a tolerance (only the limit and the invariant are covered), and global
optimality for e ≥ 1.
-/
namespace AlphaG.C16b

open AlphaG.Helix Set Filter Topology

/-- The squared distance has this shape (`distSq_eq_S`); what follows needs only the shape. -/
noncomputable def S (C A θ k c : ℝ) (t : ℝ) : ℝ := C - A * Real.cos (t + θ) + (k * t + c) ^ 2

noncomputable def S1 (A θ k c : ℝ) (t : ℝ) : ℝ := A * Real.sin (t + θ) + 2 * k * (k * t + c)

noncomputable def S2 (A θ k : ℝ) (t : ℝ) : ℝ := A * Real.cos (t + θ) + 2 * k ^ 2

theorem hasDerivAt_S (C A θ k c t : ℝ) : HasDerivAt (S C A θ k c) (S1 A θ k c t) t := by
  have hc := ((Real.hasDerivAt_cos (t + θ)).comp_add_const t θ).const_mul A
  have hz := (((hasDerivAt_id t).const_mul k).add_const c).pow 2
  exact ((hc.const_sub C).add hz).congr_deriv (by simp only [S1, id]; ring)

theorem hasDerivAt_S1 (A θ k c t : ℝ) : HasDerivAt (S1 A θ k c) (S2 A θ k t) t := by
  have hs := ((Real.hasDerivAt_sin (t + θ)).comp_add_const t θ).const_mul A
  have hz := (((hasDerivAt_id t).const_mul k).add_const c).const_mul (2 * k)
  exact (hs.add hz).congr_deriv (by simp only [S2]; ring)

theorem deriv_S (C A θ k c : ℝ) : deriv (S C A θ k c) = S1 A θ k c :=
  funext fun t => (hasDerivAt_S C A θ k c t).deriv

theorem deriv_S1 (A θ k c : ℝ) : deriv (S1 A θ k c) = S2 A θ k :=
  funext fun t => (hasDerivAt_S1 A θ k c t).deriv

theorem differentiable_S (C A θ k c : ℝ) : Differentiable ℝ (S C A θ k c) :=
  fun t => (hasDerivAt_S C A θ k c t).differentiableAt

theorem abs_mul_le_of_abs_le_one (A : ℝ) {y : ℝ} (hy : |y| ≤ 1) : |A * y| ≤ |A| := by
  rw [abs_mul]
  exact mul_le_of_le_one_right (abs_nonneg A) hy

theorem S2_ge (A θ k t : ℝ) : 2 * k ^ 2 - |A| ≤ S2 A θ k t := by
  unfold S2
  linarith [(abs_le.1 (abs_mul_le_of_abs_le_one A (Real.abs_cos_le_one (t + θ)))).1]

theorem S1_strictMono {A k : ℝ} (hA : |A| < 2 * k ^ 2) (θ c : ℝ) : StrictMono (S1 A θ k c) :=
  strictMono_of_deriv_pos fun t => by
    rw [deriv_S1]
    exact (sub_pos.2 hA).trans_le (S2_ge A θ k t)

theorem S_strictConvexOn {A k : ℝ} (hA : |A| < 2 * k ^ 2) (C θ c : ℝ) :
    StrictConvexOn ℝ univ (S C A θ k c) := by
  apply StrictMono.strictConvexOn_univ_of_deriv (differentiable_S C A θ k c).continuous
  rw [deriv_S]
  exact S1_strictMono hA θ c

theorem S1_exists_zero (A θ c : ℝ) {k : ℝ} (hk : k ≠ 0) : ∃ t, S1 A θ k c t = 0 := by
  -- the linear part of `S1` takes every value; where it is `±|A|` it outweighs `A sin`
  have hlin : ∀ a, ∃ t, 2 * k * (k * t + c) = a := fun a =>
    ⟨(a - 2 * k * c) / (2 * k ^ 2), by field_simp; ring⟩
  obtain ⟨lo, elo⟩ := hlin (-|A|)
  obtain ⟨hi, ehi⟩ := hlin |A|
  have hlo : S1 A θ k c lo ≤ 0 := by
    rw [S1, elo]
    linarith [(abs_le.1 (abs_mul_le_of_abs_le_one A (Real.abs_sin_le_one (lo + θ)))).2]
  have hhi : 0 ≤ S1 A θ k c hi := by
    rw [S1, ehi]
    linarith [(abs_le.1 (abs_mul_le_of_abs_le_one A (Real.abs_sin_le_one (hi + θ)))).1]
  obtain ⟨t, -, ht⟩ := intermediate_value_uIcc
    (fun t _ => (hasDerivAt_S1 A θ k c t).continuousAt.continuousWithinAt)
    (mem_uIcc_of_le hlo hhi)
  exact ⟨t, ht⟩

/-- distance of the point from the helix axis (`r` in the code, `hypot`) -/
noncomputable def rho (q : Params ℝ) (p : Point ℝ) : ℝ :=
  Real.sqrt ((px realOps p - q.x0) ^ 2 + (py realOps p - q.y0) ^ 2)

/-- polar angle of the point about the helix axis (`delta` in the code, `atan2`) -/
noncomputable def delta (q : Params ℝ) (p : Point ℝ) : ℝ :=
  Complex.arg ⟨px realOps p - q.x0, py realOps p - q.y0⟩

/-- the code's eccentricity `e = 4π²·r·R/h²` -/
noncomputable def ecc (q : Params ℝ) (p : Point ℝ) : ℝ :=
  4 * Real.pi ^ 2 * rho q p * q.r / q.h ^ 2

/-- the code's mean anomaly `M = π + 2πn − temp`, for an arbitrary integer `n` -/
noncomputable def keplerM (q : Params ℝ) (p : Point ℝ) (n : ℤ) : ℝ :=
  Real.pi + 2 * Real.pi * n - (q.phi0 + 2 * Real.pi * (p.z - q.z0) / q.h - delta q p)

/-- the code's back substitution `t = π − E + 2πn − φ₀ + δ` -/
noncomputable def tOfE (q : Params ℝ) (p : Point ℝ) (n : ℤ) (E : ℝ) : ℝ :=
  Real.pi - E + 2 * Real.pi * n - q.phi0 + delta q p

theorem rho_nonneg (q : Params ℝ) (p : Point ℝ) : 0 ≤ rho q p := Real.sqrt_nonneg _

theorem rho_cos_delta (q : Params ℝ) (p : Point ℝ) :
    rho q p * Real.cos (delta q p) = px realOps p - q.x0 ∧
      rho q p * Real.sin (delta q p) = py realOps p - q.y0 :=
  sqrt_mul_cos_arg _ _

/-- **Closed form** (`dist_sq_formula` of DESIGN.md):
`dist²(t) = R² + ρ² − 2Rρ cos(t + φ₀ − δ) + (h t/2π + z₀ − p_z)²`. -/
theorem distSq_formula (q : Params ℝ) (p : Point ℝ) (t : ℝ) :
    distSq q p t = q.r ^ 2 + rho q p ^ 2 - 2 * q.r * rho q p * Real.cos (t + q.phi0 - delta q p)
      + (q.h * t / (2 * Real.pi) + q.z0 - p.z) ^ 2 := by
  obtain ⟨hc, hs⟩ := rho_cos_delta q p
  have hd : distSq q p t = (q.r * Real.cos (t + q.phi0) - rho q p * Real.cos (delta q p)) ^ 2
      + (q.r * Real.sin (t + q.phi0) - rho q p * Real.sin (delta q p)) ^ 2
      + (q.h / (2 * Real.pi) * t + q.z0 - p.z) ^ 2 := by
    rw [hc, hs]; simp only [distSq, helixAt, realOps]; ring
  rw [hd, Real.cos_sub]
  linear_combination q.r ^ 2 * Real.cos_sq_add_sin_sq (t + q.phi0)
    + rho q p ^ 2 * Real.cos_sq_add_sin_sq (delta q p)

theorem distSq_eq_S (q : Params ℝ) (p : Point ℝ) :
    distSq q p = S (q.r ^ 2 + rho q p ^ 2) (2 * q.r * rho q p) (q.phi0 - delta q p)
      (q.h / (2 * Real.pi)) (q.z0 - p.z) := by
  funext t
  rw [distSq_formula]
  unfold S
  ring_nf

theorem abs_two_r_rho (q : Params ℝ) (p : Point ℝ) :
    |2 * q.r * rho q p| = 2 * (|q.r| * rho q p) := by
  rw [abs_mul, abs_mul, abs_two, abs_of_nonneg (rho_nonneg q p), mul_assoc]

/-- `|e| < 1` in the division-free form used below is exactly the strict-convexity condition. -/
theorem abs_A_lt_of_e_lt_one {q : Params ℝ} {p : Point ℝ}
    (he : 4 * Real.pi ^ 2 * rho q p * |q.r| < q.h ^ 2) :
    |2 * q.r * rho q p| < 2 * (q.h / (2 * Real.pi)) ^ 2 := by
  rw [abs_two_r_rho, show 2 * (q.h / (2 * Real.pi)) ^ 2 = q.h ^ 2 / (2 * Real.pi ^ 2) by
    field_simp, lt_div_iff₀ (by positivity)]
  linarith

theorem e_lt_one_iff (q : Params ℝ) (p : Point ℝ) :
    4 * Real.pi ^ 2 * rho q p * |q.r| < q.h ^ 2 ↔ q.h ≠ 0 ∧ |ecc q p| < 1 := by
  have hρ := rho_nonneg q p
  rcases eq_or_ne q.h 0 with hh | hh
  · rw [hh, zero_pow two_ne_zero]
    exact iff_of_false (not_lt.2 (by positivity)) fun h => h.1 rfl
  · have hpos : 0 < q.h ^ 2 := by positivity
    rw [ecc, abs_div, abs_of_pos hpos, div_lt_one hpos, abs_mul, abs_mul,
      abs_of_nonneg (by positivity : (0:ℝ) ≤ 4 * Real.pi ^ 2), abs_of_nonneg hρ]
    exact (and_iff_right hh).symm

/-- If `4π²·ρ·|R| < h²` (i.e. `h ≠ 0` and `|e| < 1`, see `e_lt_one_iff`) the squared distance
is strictly convex on all of ℝ. No sign condition on `R` is needed. -/
theorem distSq_strictConvex_of_e_lt_one (q : Params ℝ) (p : Point ℝ)
    (he : 4 * Real.pi ^ 2 * rho q p * |q.r| < q.h ^ 2) :
    StrictConvexOn ℝ univ (distSq q p) := by
  rw [distSq_eq_S]
  exact S_strictConvexOn (abs_A_lt_of_e_lt_one he) _ _ _

/-- The second derivative, in closed form, with the explicit lower bound
`f'' ≥ 2((h/2π)² − |R|ρ)`. -/
theorem deriv2_distSq (q : Params ℝ) (p : Point ℝ) (t : ℝ) :
    deriv^[2] (distSq q p) t
        = 2 * q.r * rho q p * Real.cos (t + q.phi0 - delta q p) + 2 * (q.h / (2 * Real.pi)) ^ 2 ∧
      2 * ((q.h / (2 * Real.pi)) ^ 2 - |q.r| * rho q p) ≤ deriv^[2] (distSq q p) t := by
  rw [Function.iterate_succ, Function.iterate_one, Function.comp_apply, distSq_eq_S, deriv_S,
    deriv_S1]
  refine ⟨by rw [S2, add_sub_assoc], ?_⟩
  have := S2_ge (2 * q.r * rho q p) (q.phi0 - delta q p) (q.h / (2 * Real.pi)) t
  rw [abs_two_r_rho] at this
  linarith

theorem deriv_distSq_eq_S1 (q : Params ℝ) (p : Point ℝ) :
    deriv (distSq q p) = S1 (2 * q.r * rho q p) (q.phi0 - delta q p)
      (q.h / (2 * Real.pi)) (q.z0 - p.z) := by
  rw [distSq_eq_S, deriv_S]

theorem differentiable_distSq (q : Params ℝ) (p : Point ℝ) : Differentiable ℝ (distSq q p) := by
  rw [distSq_eq_S]
  exact differentiable_S _ _ _ _ _

/-- Under `|e| < 1` a stationary point of the squared distance is a global minimiser over
*all* real `t` (in particular over the revolution `[−π, π]`). -/
theorem stationary_is_global_min_of_e_lt_one (q : Params ℝ) (p : Point ℝ)
    (he : 4 * Real.pi ^ 2 * rho q p * |q.r| < q.h ^ 2) {ts : ℝ}
    (hs : deriv (distSq q p) ts = 0) (t : ℝ) : distSq q p ts ≤ distSq q p t := by
  refine (distSq_strictConvex_of_e_lt_one q p he).convexOn.isMinOn_of_rightDeriv_eq_zero
    (by rw [interior_univ]; exact mem_univ ts) ?_ (mem_univ t)
  rw [(differentiable_distSq q p ts).derivWithin (uniqueDiffWithinAt_Ioi ts), hs]

/-- Under `|e| < 1` every parameter other than a stationary point is strictly farther. -/
theorem stationary_is_global_min_of_e_lt_one_strict (q : Params ℝ) (p : Point ℝ)
    (he : 4 * Real.pi ^ 2 * rho q p * |q.r| < q.h ^ 2) {ts : ℝ}
    (hs : deriv (distSq q p) ts = 0) {t : ℝ} (ht : t ≠ ts) : distSq q p ts < distSq q p t := by
  have hmin := stationary_is_global_min_of_e_lt_one q p he hs
  -- a strictly convex function has at most one minimiser
  refine lt_of_le_of_ne (hmin t) fun heq => ht ?_
  exact (distSq_strictConvex_of_e_lt_one q p he).eq_of_isMinOn (fun x _ => heq ▸ hmin x)
    (fun x _ => hmin x) (mem_univ t) (mem_univ ts)

/-- Under `|e| < 1` there is at most one stationary point. -/
theorem stationary_unique_of_e_lt_one (q : Params ℝ) (p : Point ℝ)
    (he : 4 * Real.pi ^ 2 * rho q p * |q.r| < q.h ^ 2) {t1 t2 : ℝ}
    (h1 : deriv (distSq q p) t1 = 0) (h2 : deriv (distSq q p) t2 = 0) : t1 = t2 := by
  rw [deriv_distSq_eq_S1] at h1 h2
  exact (S1_strictMono (abs_A_lt_of_e_lt_one he) _ _).injective (h1.trans h2.symm)

theorem exists_stationary (q : Params ℝ) (p : Point ℝ) (hh : q.h ≠ 0) :
    ∃ t, deriv (distSq q p) t = 0 := by
  rw [deriv_distSq_eq_S1]
  exact S1_exists_zero _ _ _ (div_ne_zero hh (by positivity))

/-- Under `|e| < 1` there is exactly one stationary point, and it is the global minimiser. -/
theorem exists_unique_stationary_of_e_lt_one (q : Params ℝ) (p : Point ℝ)
    (he : 4 * Real.pi ^ 2 * rho q p * |q.r| < q.h ^ 2) :
    ∃! ts, deriv (distSq q p) ts = 0 ∧ ∀ t, distSq q p ts ≤ distSq q p t := by
  obtain ⟨ts, hts⟩ := exists_stationary q p ((e_lt_one_iff q p).1 he).1
  exact ⟨ts, ⟨hts, stationary_is_global_min_of_e_lt_one q p he hts⟩,
    fun y hy => stationary_unique_of_e_lt_one q p he hy.1 hts⟩

/-- With the code's substitution `t = tOfE n E` the derivative of the squared distance is Kepler's
residual `M_n − (E − e sin E)` times `h²/2π²`. -/
theorem S1_eq_kepler (q : Params ℝ) (p : Point ℝ) (hh : q.h ≠ 0) (n : ℤ) (E : ℝ) :
    S1 (2 * q.r * rho q p) (q.phi0 - delta q p) (q.h / (2 * Real.pi)) (q.z0 - p.z) (tOfE q p n E)
      = q.h ^ 2 / (2 * Real.pi ^ 2) * (keplerM q p n - (E - ecc q p * Real.sin E)) := by
  have hpi : Real.pi ≠ 0 := Real.pi_ne_zero
  have hs : Real.sin (tOfE q p n E + (q.phi0 - delta q p)) = Real.sin E := by
    rw [show tOfE q p n E + (q.phi0 - delta q p) = Real.pi - E + n * (2 * Real.pi) by
        unfold tOfE; ring,
      Real.sin_add_int_mul_two_pi, Real.sin_pi_sub]
  unfold S1
  rw [hs]
  unfold keplerM ecc tOfE
  field_simp
  ring

theorem kepler_iff_stationary' (q : Params ℝ) (p : Point ℝ) (hh : q.h ≠ 0) (n : ℤ) (E : ℝ) :
    deriv (distSq q p) (tOfE q p n E) = 0 ↔ keplerM q p n = E - ecc q p * Real.sin E := by
  rw [deriv_distSq_eq_S1, S1_eq_kepler q p hh, mul_eq_zero, or_iff_right (by positivity),
    sub_eq_zero]

/-- For `|e| < 1`: every solution `E` of Kepler's equation `M_n = E − e sin E`
(for any integer `n`, in particular the code's `n = ⌊temp/2π⌋`) maps back to the global minimiser
of the distance over all `t`. So for `|e| < 1` the optimality clause of C16 holds for the exact
root — whether or not `t` falls inside `(−π, π)`. -/
theorem kepler_root_is_global_min_of_e_lt_one (q : Params ℝ) (p : Point ℝ)
    (he : 4 * Real.pi ^ 2 * rho q p * |q.r| < q.h ^ 2) (n : ℤ) {E : ℝ}
    (hK : keplerM q p n = E - ecc q p * Real.sin E) (t : ℝ) :
    distSq q p (tOfE q p n E) ≤ distSq q p t :=
  stationary_is_global_min_of_e_lt_one q p he
    ((kepler_iff_stationary' q p ((e_lt_one_iff q p).1 he).1 n E).2 hK) t

/-- For any pitch and any `e`: the distance attains its minimum over the revolution
`[−π, π]`, and every minimiser is `−π`, `π` or a stationary point (a root of Kepler's equation
when `h ≠ 0`, by `kepler_iff_stationary'`). This is what the final clamp of `closest_t` relies on. -/
theorem global_min_on_interval_is_stationary_or_endpoint (q : Params ℝ) (p : Point ℝ) :
    (∃ t ∈ Icc (-Real.pi) Real.pi, IsMinOn (distSq q p) (Icc (-Real.pi) Real.pi) t) ∧
    ∀ t ∈ Icc (-Real.pi) Real.pi, IsMinOn (distSq q p) (Icc (-Real.pi) Real.pi) t →
      t = -Real.pi ∨ t = Real.pi ∨ deriv (distSq q p) t = 0 := by
  refine ⟨isCompact_Icc.exists_isMinOn (nonempty_Icc.2 (by linarith [Real.pi_pos]))
    (differentiable_distSq q p).continuous.continuousOn, fun t ht hmin => ?_⟩
  rcases eq_or_lt_of_le ht.1 with h1 | h1
  · exact Or.inl h1.symm
  rcases eq_or_lt_of_le ht.2 with h2 | h2
  · exact Or.inr (Or.inl h2)
  · exact Or.inr (Or.inr (hmin.isLocalMin (Icc_mem_nhds h1 h2)).deriv_eq_zero)

theorem clamp_real (x lo hi : ℝ) :
    clamp realOps x lo hi = if x < lo then lo else if hi < x then hi else x := by
  simp only [clamp, realOps, decide_eq_true_eq]

/-- For `|e| < 1` the clamp is exact: clamping the (unique) stationary point to `[lo, hi]` gives
the minimiser of the distance over `[lo, hi]` (the source comment only claims "good enough to
penalize the helix"; for `|e| < 1` it is the constrained optimum, by convexity). -/
theorem clamp_is_interval_min_of_e_lt_one (q : Params ℝ) (p : Point ℝ)
    (he : 4 * Real.pi ^ 2 * rho q p * |q.r| < q.h ^ 2) {ts : ℝ}
    (hs : deriv (distSq q p) ts = 0) {lo hi : ℝ} {t : ℝ} (ht : t ∈ Icc lo hi) :
    distSq q p (clamp realOps ts lo hi) ≤ distSq q p t := by
  have hcv := (distSq_strictConvex_of_e_lt_one q p he).convexOn
  have hmin := stationary_is_global_min_of_e_lt_one q p he hs
  rw [clamp_real]
  split_ifs with h1 h2
  · -- `ts < lo ≤ t`: `lo` is on the segment from the minimiser `ts` to `t`
    have := hcv.le_on_segment (mem_univ ts) (mem_univ t)
      (show lo ∈ segment ℝ ts t by rw [segment_eq_Icc (by linarith [ht.1])]; exact ⟨h1.le, ht.1⟩)
    rwa [max_eq_right (hmin t)] at this
  · -- `t ≤ hi < ts`
    have := hcv.le_on_segment (mem_univ t) (mem_univ ts)
      (show hi ∈ segment ℝ t ts by rw [segment_eq_Icc (by linarith [ht.2])]; exact ⟨ht.2, h2.le⟩)
    rwa [max_eq_left (hmin t)] at this
  · exact hmin t

/-- the code's `n = ⌊temp / 2π⌋` -/
noncomputable def codeN (q : Params ℝ) (p : Point ℝ) : ℤ :=
  ⌊(q.phi0 + 2 * Real.pi * (p.z - q.z0) / q.h - delta q p) / (2 * Real.pi)⌋

/-- the value of `E` the model's Newton loop ends with (exact arithmetic) -/
noncomputable def codeE (q : Params ℝ) (p : Point ℝ) (tol : ℝ) (maxIter : Nat) : ℝ :=
  newton realOps (ecc q p) (keplerM q p (codeN q p)) |tol| maxIter
    (if keplerM q p (codeN q p) < 0 then -Real.pi else Real.pi)

/-- The helix branch of the model, in the vocabulary of this file. -/
theorem closestT_eq (q : Params ℝ) (p : Point ℝ) (tol : ℝ) (maxIter : Nat)
    (hh : ¬ |q.h| < 2 ^ (-52 : ℤ)) :
    closestT realOps q p tol maxIter
      = clamp realOps (tOfE q p (codeN q p) (codeE q p tol maxIter)) (-Real.pi) Real.pi := by
  have hbranch : ¬ (realOps.lt (realOps.abs q.h) realOps.eps = true) := by
    simpa only [realOps, decide_eq_true_eq] using hh
  -- the code writes `e` with `π·π` and `h·h`; all else agrees up to the Boolean comparisons
  have he : 4 * (Real.pi * Real.pi) * rho q p * q.r / (q.h * q.h) = ecc q p := by
    unfold ecc; ring
  unfold closestT codeE
  rw [if_neg hbranch, ← he]
  simp only [realOps, decide_eq_true_eq]
  rfl

/-- the code's `M` lies in `(−π, π]` — the range for which the Newton theorems below are stated -/
theorem keplerM_codeN_mem (q : Params ℝ) (p : Point ℝ) :
    -Real.pi < keplerM q p (codeN q p) ∧ keplerM q p (codeN q p) ≤ Real.pi := by
  set temp := q.phi0 + 2 * Real.pi * (p.z - q.z0) / q.h - delta q p with htemp
  have h1 : ((codeN q p : ℤ) : ℝ) ≤ temp / (2 * Real.pi) := Int.floor_le _
  have h2 : temp / (2 * Real.pi) < (codeN q p : ℝ) + 1 := Int.lt_floor_add_one _
  rw [le_div_iff₀ (by positivity)] at h1
  rw [div_lt_iff₀ (by positivity)] at h2
  unfold keplerM
  rw [← htemp]
  exact ⟨by linarith, by linarith⟩

/-- Exact arithmetic, helix branch (`|h| ≥ ε`), `|e| < 1`: if the value `E` the
Newton loop ends with solves Kepler's equation exactly and the reported `t` is strictly inside
`(−π, π)`, then the reported `t` minimises the distance over *all* real `t`. -/
theorem closestT_optimal_of_exact_root_of_e_lt_one (q : Params ℝ) (p : Point ℝ) (tol : ℝ)
    (maxIter : Nat) (hh : ¬ |q.h| < 2 ^ (-52 : ℤ))
    (he : 4 * Real.pi ^ 2 * rho q p * |q.r| < q.h ^ 2)
    (hroot : keplerM q p (codeN q p)
      = codeE q p tol maxIter - ecc q p * Real.sin (codeE q p tol maxIter))
    (hin : -Real.pi < closestT realOps q p tol maxIter ∧ closestT realOps q p tol maxIter < Real.pi)
    (t : ℝ) : distSq q p (closestT realOps q p tol maxIter) ≤ distSq q p t := by
  have hc := closestT_eq q p tol maxIter hh
  have : closestT realOps q p tol maxIter = tOfE q p (codeN q p) (codeE q p tol maxIter) := by
    rw [hc, clamp_real] at hin ⊢
    split_ifs at hin ⊢
    · exact absurd hin.1 (lt_irrefl _)
    · exact absurd hin.2 (lt_irrefl _)
    · rfl
  rw [this]
  exact kepler_root_is_global_min_of_e_lt_one q p he _ hroot t

/-- Same without the "strictly inside" hypothesis, over the revolution: for `|e| < 1` and an exact
root the reported (clamped) `t` minimises the distance over `[−π, π]`. -/
theorem closestT_interval_optimal_of_exact_root_of_e_lt_one (q : Params ℝ) (p : Point ℝ)
    (tol : ℝ) (maxIter : Nat) (hh : ¬ |q.h| < 2 ^ (-52 : ℤ))
    (he : 4 * Real.pi ^ 2 * rho q p * |q.r| < q.h ^ 2)
    (hroot : keplerM q p (codeN q p)
      = codeE q p tol maxIter - ecc q p * Real.sin (codeE q p tol maxIter))
    {t : ℝ} (ht : t ∈ Icc (-Real.pi) Real.pi) :
    distSq q p (closestT realOps q p tol maxIter) ≤ distSq q p t := by
  rw [closestT_eq q p tol maxIter hh]
  exact clamp_is_interval_min_of_e_lt_one q p he
    ((kepler_iff_stationary' q p ((e_lt_one_iff q p).1 he).1 _ _).2 hroot) ht

/-- Kepler's function `g(E) = E − e sin E − M` (`f` in the code, `kf` in the model). -/
noncomputable def kep (e M E : ℝ) : ℝ := E - e * Real.sin E - M

/-- its derivative `1 − e cos E` (`df` in the code, `kdf` in the model) -/
noncomputable def kep' (e E : ℝ) : ℝ := 1 - e * Real.cos E

/-- one Newton step `E − g(E)/g'(E)` -/
noncomputable def kstep (e M E : ℝ) : ℝ := E - kep e M E / kep' e E

/-- the Newton sequence started at `E0` -/
noncomputable def newtonSeq (e M E0 : ℝ) : ℕ → ℝ
  | 0 => E0
  | n + 1 => kstep e M (newtonSeq e M E0 n)

theorem kf_real (e M E : ℝ) : kf realOps e M E = kep e M E := rfl
theorem kdf_real (e E : ℝ) : kdf realOps e E = kep' e E := rfl

theorem kep_eq_zero_iff {e M E : ℝ} : kep e M E = 0 ↔ M = E - e * Real.sin E :=
  sub_eq_zero.trans eq_comm

theorem hasDerivAt_kep (e M E : ℝ) : HasDerivAt (kep e M) (kep' e E) E := by
  unfold kep kep'
  exact ((hasDerivAt_id E).sub ((Real.hasDerivAt_sin E).const_mul e)).sub_const M

theorem deriv_kep (e M : ℝ) : deriv (kep e M) = kep' e :=
  funext fun E => (hasDerivAt_kep e M E).deriv

theorem continuous_kep (e M : ℝ) : Continuous (kep e M) :=
  continuous_iff_continuousAt.2 fun E => (hasDerivAt_kep e M E).continuousAt

theorem kep'_pos {e : ℝ} (he : |e| < 1) (E : ℝ) : 0 < kep' e E := by
  unfold kep'
  linarith [(abs_le.1 (abs_mul_le_of_abs_le_one e (Real.abs_cos_le_one E))).2]

theorem kep_strictMono {e : ℝ} (he : |e| < 1) (M : ℝ) : StrictMono (kep e M) :=
  strictMono_of_deriv_pos fun E => by rw [deriv_kep]; exact kep'_pos he E

/-- `g` is convex on `[0, π]` for `e ≥ 0` (`g'' = e sin E ≥ 0` there). -/
theorem kep_convexOn {e : ℝ} (he0 : 0 ≤ e) (M : ℝ) : ConvexOn ℝ (Icc 0 Real.pi) (kep e M) := by
  apply MonotoneOn.convexOn_of_deriv (convex_Icc _ _) (continuous_kep e M).continuousOn
    (fun E _ => (hasDerivAt_kep e M E).differentiableAt.differentiableWithinAt)
  rw [interior_Icc, deriv_kep]
  intro a ha b hb hab
  unfold kep'
  have := Real.strictAntiOn_cos.antitoneOn (Ioo_subset_Icc_self ha) (Ioo_subset_Icc_self hb) hab
  exact sub_le_sub_left (mul_le_mul_of_nonneg_left this he0) 1

theorem kep_exists_root {e M : ℝ} (he0 : 0 ≤ e) (hM0 : 0 ≤ M) (hMpi : M ≤ Real.pi) :
    ∃ Es ∈ Icc M Real.pi, kep e M Es = 0 := by
  have h1 : kep e M M ≤ 0 := by
    rw [kep]; linarith [mul_nonneg he0 (Real.sin_nonneg_of_nonneg_of_le_pi hM0 hMpi)]
  have h2 : 0 ≤ kep e M Real.pi := by rw [kep, Real.sin_pi]; linarith
  exact intermediate_value_Icc hMpi (continuous_kep e M).continuousOn ⟨h1, h2⟩

theorem kstep_mem {e M Es E : ℝ} (he0 : 0 ≤ e) (he1 : e < 1) (hEs0 : 0 ≤ Es)
    (hroot : kep e M Es = 0) (hE : E ∈ Icc Es Real.pi) :
    kstep e M E ∈ Icc Es E := by
  have habs : |e| < 1 := (abs_of_nonneg he0).trans_lt he1
  have hd := kep'_pos habs E
  have hg : 0 ≤ kep e M E := by
    rw [← hroot]; exact (kep_strictMono habs M).monotone hE.1
  unfold kstep
  refine ⟨?_, by linarith [div_nonneg hg hd.le]⟩
  rcases eq_or_lt_of_le hE.1 with h | h
  · rw [← h, hroot]; simp
  · -- `g` is convex on `[0, π]`, so the chord from the root to `E` is no steeper than the
    -- tangent at `E`: the step does not pass the root
    have hs := (kep_convexOn he0 M).slope_le_of_hasDerivAt (x := Es) (y := E)
      ⟨hEs0, h.le.trans hE.2⟩ ⟨hEs0.trans hE.1, hE.2⟩ h (hasDerivAt_kep e M E)
    rw [slope_def_field, hroot, sub_zero, div_le_iff₀ (by linarith)] at hs
    have : kep e M E / kep' e E ≤ E - Es := by
      rw [div_le_iff₀ hd]; linarith
    linarith

theorem newtonSeq_mem {e M Es E0 : ℝ} (he0 : 0 ≤ e) (he1 : e < 1) (hEs0 : 0 ≤ Es)
    (hroot : kep e M Es = 0) (hE0 : E0 ∈ Icc Es Real.pi) (n : ℕ) :
    newtonSeq e M E0 n ∈ Icc Es Real.pi := by
  induction n with
  | zero => exact hE0
  | succ n ih =>
    have := kstep_mem he0 he1 hEs0 hroot ih
    exact ⟨this.1, this.2.trans ih.2⟩

theorem newtonSeq_antitone {e M Es E0 : ℝ} (he0 : 0 ≤ e) (he1 : e < 1) (hEs0 : 0 ≤ Es)
    (hroot : kep e M Es = 0) (hE0 : E0 ∈ Icc Es Real.pi) : Antitone (newtonSeq e M E0) :=
  antitone_nat_of_succ_le fun n =>
    (kstep_mem he0 he1 hEs0 hroot (newtonSeq_mem he0 he1 hEs0 hroot hE0 n)).2

theorem newton_limit_is_root {e M E0 L : ℝ}
    (hlim : Tendsto (newtonSeq e M E0) atTop (𝓝 L)) (hd : kep' e L ≠ 0) : kep e M L = 0 := by
  have hc : ContinuousAt (kstep e M) L :=
    continuousAt_id.sub ((continuous_kep e M).continuousAt.div (by unfold kep'; fun_prop) hd)
  have h1 : Tendsto (fun n => newtonSeq e M E0 (n + 1)) atTop (𝓝 (kstep e M L)) :=
    (hc.tendsto.comp hlim)
  have h2 : Tendsto (fun n => newtonSeq e M E0 (n + 1)) atTop (𝓝 L) :=
    hlim.comp (tendsto_add_atTop_nat 1)
  have := tendsto_nhds_unique h1 h2
  unfold kstep at this
  exact (div_eq_zero_iff.1 (by linarith : kep e M L / kep' e L = 0)).resolve_right hd

/-- Newton for Kepler, `0 ≤ e < 1`, `M ∈ [0, π]`, start `π` (the code's start for
`M ≥ 0`): Kepler's equation has exactly one real root `E⋆`, it lies in `[M, π]`; every Newton
iterate lies in `[E⋆, π]`, the sequence is non-increasing, and it converges to `E⋆`.
This is the "Newton method converges monotonically" claim of the source comment, for `e < 1`. -/
theorem newton_kepler_tendsto_root {e M : ℝ} (he0 : 0 ≤ e) (he1 : e < 1) (hM0 : 0 ≤ M)
    (hMpi : M ≤ Real.pi) :
    ∃ Es, (kep e M Es = 0 ∧ ∀ E, kep e M E = 0 → E = Es) ∧ Es ∈ Icc M Real.pi ∧
      (∀ n, newtonSeq e M Real.pi n ∈ Icc Es Real.pi) ∧
      Antitone (newtonSeq e M Real.pi) ∧
      Tendsto (newtonSeq e M Real.pi) atTop (𝓝 Es) := by
  have habs : |e| < 1 := (abs_of_nonneg he0).trans_lt he1
  obtain ⟨Es, hEs, hroot⟩ := kep_exists_root he0 hM0 hMpi
  have hEs0 : 0 ≤ Es := hM0.trans hEs.1
  have hE0 : Real.pi ∈ Icc Es Real.pi := ⟨hEs.2, le_refl _⟩
  have hmem := newtonSeq_mem he0 he1 hEs0 hroot hE0
  have hanti := newtonSeq_antitone he0 he1 hEs0 hroot hE0
  have huniq : ∀ E, kep e M E = 0 → E = Es := fun E hE =>
    (kep_strictMono habs M).injective (hE.trans hroot.symm)
  refine ⟨Es, ⟨hroot, huniq⟩, hEs, hmem, hanti, ?_⟩
  have hbdd : BddBelow (range (newtonSeq e M Real.pi)) :=
    ⟨Es, by rintro _ ⟨n, rfl⟩; exact (hmem n).1⟩
  have hlim := tendsto_atTop_ciInf hanti hbdd
  have hL := newton_limit_is_root hlim (kep'_pos habs _).ne'
  rwa [huniq _ hL] at hlim

theorem kep_neg (e M E : ℝ) : kep e (-M) (-E) = -kep e M E := by
  unfold kep; rw [Real.sin_neg]; ring

theorem newtonSeq_neg (e M E0 : ℝ) (n : ℕ) :
    newtonSeq e M (-E0) n = -newtonSeq e (-M) E0 n := by
  induction n with
  | zero => rfl
  | succ n ih =>
    show kstep e M (newtonSeq e M (-E0) n) = -kstep e (-M) (newtonSeq e (-M) E0 n)
    rw [ih]
    unfold kstep kep kep'
    rw [Real.sin_neg, Real.cos_neg]
    ring

/-- Mirrored: `0 ≤ e < 1`, `M ∈ [−π, 0]`, start `−π` (the code's start for `M < 0`): unique
root `E⋆ ∈ [−π, M]`, iterates in `[−π, E⋆]`, non-decreasing, converging to `E⋆`. -/
theorem newton_kepler_tendsto_root_neg {e M : ℝ} (he0 : 0 ≤ e) (he1 : e < 1)
    (hMpi : -Real.pi ≤ M) (hM0 : M ≤ 0) :
    ∃ Es, (kep e M Es = 0 ∧ ∀ E, kep e M E = 0 → E = Es) ∧ Es ∈ Icc (-Real.pi) M ∧
      (∀ n, newtonSeq e M (-Real.pi) n ∈ Icc (-Real.pi) Es) ∧
      Monotone (newtonSeq e M (-Real.pi)) ∧
      Tendsto (newtonSeq e M (-Real.pi)) atTop (𝓝 Es) := by
  -- the mirror image, fact by fact, of the theorem for `−M ∈ [0, π]`
  obtain ⟨Es, ⟨hroot, huniq⟩, hEs, hmem, hanti, hlim⟩ :=
    newton_kepler_tendsto_root (M := -M) he0 he1 (neg_nonneg.2 hM0) (neg_le.1 hMpi)
  rw [show newtonSeq e M (-Real.pi) = fun n => -newtonSeq e (-M) Real.pi n from
    funext (newtonSeq_neg e M Real.pi)]
  refine ⟨-Es, ⟨by rw [← neg_neg M, kep_neg, hroot, neg_zero], fun E hE => ?_⟩,
    neg_mem_Icc_iff.2 (by rwa [neg_neg]),
    fun n => neg_mem_Icc_iff.2 (by rw [neg_neg, neg_neg]; exact hmem n), hanti.neg, hlim.neg⟩
  exact neg_eq_iff_eq_neg.1 (huniq (-E) (by rw [kep_neg, hE, neg_zero]))

theorem newtonSeq_kstep (e M E0 : ℝ) (n : ℕ) :
    newtonSeq e M (kstep e M E0) n = newtonSeq e M E0 (n + 1) := by
  induction n with
  | zero => rfl
  | succ n ih => exact congrArg (kstep e M) ih

/-- The model's loop returns one of the first `fuel + 1` terms of the Newton sequence (which one
depends on the tolerance). -/
theorem newton_real_eq_newtonSeq (e M tol : ℝ) (fuel : ℕ) (E0 : ℝ) :
    ∃ n ≤ fuel, newton realOps e M tol fuel E0 = newtonSeq e M E0 n := by
  induction fuel generalizing E0 with
  | zero => exact ⟨0, le_refl _, rfl⟩
  | succ k ih =>
    have hstep : realOps.sub E0 (realOps.div (kf realOps e M E0) (kdf realOps e E0))
        = kstep e M E0 := rfl
    simp only [newton, hstep]
    split_ifs
    · exact ⟨1, Nat.succ_le_succ (Nat.zero_le k), rfl⟩
    · obtain ⟨n, hn, h⟩ := ih (kstep e M E0)
      exact ⟨n + 1, Nat.succ_le_succ hn, h.trans (newtonSeq_kstep e M E0 n)⟩

/-- The model's own loop (exact arithmetic, any tolerance, any fuel, early exit included) never
leaves `[E⋆, start]` when started in `[E⋆, π]`. -/
theorem newton_model_mem {e M Es : ℝ} (he0 : 0 ≤ e) (he1 : e < 1) (hEs0 : 0 ≤ Es)
    (hroot : kep e M Es = 0) (tol : ℝ) (fuel : ℕ) {E0 : ℝ} (hE0 : E0 ∈ Icc Es Real.pi) :
    newton realOps e M tol fuel E0 ∈ Icc Es E0 := by
  obtain ⟨n, -, h⟩ := newton_real_eq_newtonSeq e M tol fuel E0
  rw [h]
  exact ⟨(newtonSeq_mem he0 he1 hEs0 hroot hE0 n).1,
    newtonSeq_antitone he0 he1 hEs0 hroot hE0 (Nat.zero_le n)⟩

/-- Instantiated at the code's start: for `0 ≤ e < 1`, `M ∈ [0, π]` the value the model's loop
returns lies between the unique root and `π`, for every tolerance and iteration budget. -/
theorem newton_model_mem_pi {e M : ℝ} (he0 : 0 ≤ e) (he1 : e < 1) (hM0 : 0 ≤ M)
    (hMpi : M ≤ Real.pi) (tol : ℝ) (fuel : ℕ) :
    ∃ Es ∈ Icc M Real.pi, kep e M Es = 0 ∧ newton realOps e M tol fuel Real.pi ∈ Icc Es Real.pi := by
  obtain ⟨Es, hEs, hroot⟩ := kep_exists_root he0 hM0 hMpi
  exact ⟨Es, hEs, hroot,
    newton_model_mem he0 he1 (hM0.trans hEs.1) hroot tol fuel ⟨hEs.2, le_refl _⟩⟩

/-- For `e ≥ 1` the derivative of Kepler's function vanishes at `E = arccos(1/e) ∈ [0, π/2]`: `g` is
not strictly increasing with a positive lower bound on `g'`, the Newton step divides by zero there,
and `kep'_pos` fails. -/
theorem kepler_deriv_vanishes_of_one_le {e : ℝ} (he : 1 ≤ e) :
    ∃ E ∈ Icc 0 (Real.pi / 2), kep' e E = 0 := by
  have hpos : 0 < e := by linarith
  have h1 : (1 : ℝ) / e ≤ 1 := by rw [div_le_one hpos]; exact he
  have h0 : 0 ≤ (1 : ℝ) / e := by positivity
  refine ⟨Real.arccos (1 / e), ⟨Real.arccos_nonneg _, Real.arccos_le_pi_div_two.2 h0⟩, ?_⟩
  unfold kep'
  rw [Real.cos_arccos (by linarith) h1]
  field_simp
  ring

/-- For `e > 1` (written `h² < 4π²ρR`, which forces `R > 0`) the squared distance is *not* convex:
at `t = π − φ₀ + δ` its second derivative is `2((h/2π)² − Rρ) < 0`. So hypothesis `e < 1` of
`distSq_strictConvex_of_e_lt_one` cannot be dropped. -/
theorem distSq_not_convex_of_one_lt_e (q : Params ℝ) (p : Point ℝ)
    (he : q.h ^ 2 < 4 * Real.pi ^ 2 * rho q p * q.r) : ¬ ConvexOn ℝ univ (distSq q p) := by
  intro hcv
  have hmono := monotoneOn_univ.1 (hcv.monotoneOn_deriv fun x _ => differentiable_distSq q p x)
  have h2 := hmono.deriv_nonneg (x := Real.pi - (q.phi0 - delta q p))
  rw [deriv_distSq_eq_S1, deriv_S1, S2, sub_add_cancel, Real.cos_pi] at h2
  have : (q.h / (2 * Real.pi)) ^ 2 < rho q p * q.r := by
    rw [div_pow, div_lt_iff₀ (by positivity)]; linarith
  linarith

/-- For any pitch `h ≠ 0` and any `n`, Kepler's equation of the code has a solution. -/
theorem exists_kepler_root (q : Params ℝ) (p : Point ℝ) (hh : q.h ≠ 0) (n : ℤ) :
    ∃ E, keplerM q p n = E - ecc q p * Real.sin E := by
  obtain ⟨ts, hts⟩ := exists_stationary q p hh
  refine ⟨Real.pi - ts + 2 * Real.pi * n - q.phi0 + delta q p, ?_⟩
  rw [← kepler_iff_stationary' q p hh n]
  have : tOfE q p n (Real.pi - ts + 2 * Real.pi * n - q.phi0 + delta q p) = ts := by
    unfold tOfE; ring
  rw [this]; exact hts

/-- Exact arithmetic, `R ≥ 0`, `h ≠ 0`, `e < 1`, the code's `n = ⌊temp/2π⌋`, the code's
`M` and the code's start (`−π` if `M < 0`, else `π`): the Newton sequence converges, monotonically,
to a limit `E⋆`, and `t⋆ = π − E⋆ + 2πn − φ₀ + δ` minimises the distance over all real `t`.
(What the code returns is an iterate, not the limit; with a tolerance and ≤ 20 steps in `f64` —
that part stays with the harness.) -/
theorem newton_limit_is_global_min_of_e_lt_one (q : Params ℝ) (p : Point ℝ) (hr : 0 ≤ q.r)
    (he : 4 * Real.pi ^ 2 * rho q p * |q.r| < q.h ^ 2) :
    ∃ Es, Tendsto (newtonSeq (ecc q p) (keplerM q p (codeN q p))
              (if keplerM q p (codeN q p) < 0 then -Real.pi else Real.pi)) atTop (𝓝 Es) ∧
      (Antitone (newtonSeq (ecc q p) (keplerM q p (codeN q p))
              (if keplerM q p (codeN q p) < 0 then -Real.pi else Real.pi)) ∨
       Monotone (newtonSeq (ecc q p) (keplerM q p (codeN q p))
              (if keplerM q p (codeN q p) < 0 then -Real.pi else Real.pi))) ∧
      ∀ t, distSq q p (tOfE q p (codeN q p) Es) ≤ distSq q p t := by
  obtain ⟨hh, he1⟩ := (e_lt_one_iff q p).1 he
  have he0 : 0 ≤ ecc q p := by
    unfold ecc; have := rho_nonneg q p; positivity
  rw [abs_of_nonneg he0] at he1
  obtain ⟨hMlo, hMhi⟩ := keplerM_codeN_mem q p
  split_ifs with hneg
  · obtain ⟨Es, ⟨hroot, _⟩, _, _, hmono, hlim⟩ :=
      newton_kepler_tendsto_root_neg he0 he1 hMlo.le hneg.le
    exact ⟨Es, hlim, Or.inr hmono,
      kepler_root_is_global_min_of_e_lt_one q p he _ (kep_eq_zero_iff.1 hroot)⟩
  · obtain ⟨Es, ⟨hroot, _⟩, _, _, hanti, hlim⟩ :=
      newton_kepler_tendsto_root he0 he1 (not_lt.1 hneg) hMhi
    exact ⟨Es, hlim, Or.inl hanti,
      kepler_root_is_global_min_of_e_lt_one q p he _ (kep_eq_zero_iff.1 hroot)⟩

/-! ### Non-vacuity: concrete instances of every hypothesis -/

section Examples

/-- helix of radius 0.1 m about the z axis, pitch 1 m -/
noncomputable def qEx : Params ℝ := ⟨0, 0, 0, 0.1, 0, 1⟩
/-- the point (0.1, 0, 0), on that helix at `t = 0` -/
noncomputable def pEx : Point ℝ := ⟨0.1, 0, 0⟩
/-- helix of radius 1 m, pitch 1 m, and the point (1, 0, 0): `e = 4π² > 1` -/
noncomputable def qBig : Params ℝ := ⟨0, 0, 0, 1, 0, 1⟩
noncomputable def pBig : Point ℝ := ⟨1, 0, 0⟩

theorem rho_axis (q : Params ℝ) (p : Point ℝ) (hx : q.x0 = 0) (hy : q.y0 = 0) (hphi : p.phi = 0)
    (hr : 0 ≤ p.r) : rho q p = p.r := by
  unfold rho
  simp only [px, py, realOps, hx, hy, hphi, Real.cos_zero, Real.sin_zero, mul_one, mul_zero,
    sub_zero]
  rw [show p.r ^ 2 + (0:ℝ) ^ 2 = p.r ^ 2 by ring, Real.sqrt_sq hr]

theorem rho_ex : rho qEx pEx = 0.1 := rho_axis qEx pEx rfl rfl rfl (by norm_num [pEx])
theorem delta_ex : delta qEx pEx = 0 := by
  unfold delta
  simp only [px, py, realOps, qEx, pEx, Real.cos_zero, Real.sin_zero, mul_one, mul_zero, sub_zero]
  exact Complex.arg_ofReal_of_nonneg (by norm_num)

theorem he_ex : 4 * Real.pi ^ 2 * rho qEx pEx * |qEx.r| < qEx.h ^ 2 := by
  have : Real.pi ^ 2 ≤ 4 ^ 2 := pow_le_pow_left₀ Real.pi_pos.le Real.pi_le_four 2
  rw [rho_ex, show qEx.r = 0.1 from rfl, show qEx.h = 1 from rfl, abs_of_pos (by norm_num)]
  linarith

example : StrictConvexOn ℝ univ (distSq qEx pEx) := distSq_strictConvex_of_e_lt_one _ _ he_ex
-- `e < 1` and a stationary point are jointly satisfiable
example : ∃ ts, deriv (distSq qEx pEx) ts = 0 ∧ ∀ t, distSq qEx pEx ts ≤ distSq qEx pEx t :=
  (exists_unique_stationary_of_e_lt_one qEx pEx he_ex).exists
-- so are `e < 1` and a Kepler root, for the code's `n`
example : ∃ E, keplerM qEx pEx (codeN qEx pEx) = E - ecc qEx pEx * Real.sin E ∧
    ∀ t, distSq qEx pEx (tOfE qEx pEx (codeN qEx pEx) E) ≤ distSq qEx pEx t := by
  obtain ⟨E, hE⟩ := exists_kepler_root qEx pEx ((e_lt_one_iff _ _).1 he_ex).1 (codeN qEx pEx)
  exact ⟨E, hE, kepler_root_is_global_min_of_e_lt_one qEx pEx he_ex _ hE⟩
example : ∃ t ∈ Icc (-Real.pi) Real.pi, IsMinOn (distSq qBig pBig) (Icc (-Real.pi) Real.pi) t :=
  (global_min_on_interval_is_stationary_or_endpoint qBig pBig).1
example : ∃ Es, Tendsto (newtonSeq (1/2) 1 Real.pi) atTop (𝓝 Es) ∧ kep (1/2) 1 Es = 0 := by
  obtain ⟨Es, ⟨h, _⟩, _, _, _, hl⟩ := newton_kepler_tendsto_root (e := 1/2) (M := 1)
    (by norm_num) (by norm_num) (by norm_num) (by linarith [Real.two_le_pi])
  exact ⟨Es, hl, h⟩
example : ∃ Es, Tendsto (newtonSeq (1/2) (-1) (-Real.pi)) atTop (𝓝 Es) ∧ kep (1/2) (-1) Es = 0 := by
  obtain ⟨Es, ⟨h, _⟩, _, _, _, hl⟩ := newton_kepler_tendsto_root_neg (e := 1/2) (M := -1)
    (by norm_num) (by norm_num) (by linarith [Real.two_le_pi]) (by norm_num)
  exact ⟨Es, hl, h⟩
example : ∃ Es, ∀ t, distSq qEx pEx (tOfE qEx pEx (codeN qEx pEx) Es) ≤ distSq qEx pEx t := by
  obtain ⟨Es, _, _, h⟩ := newton_limit_is_global_min_of_e_lt_one qEx pEx (by norm_num [qEx]) he_ex
  exact ⟨Es, h⟩
example : ∃ E ∈ Icc 0 (Real.pi / 2), kep' 2 E = 0 := kepler_deriv_vanishes_of_one_le (by norm_num)
example : ¬ ConvexOn ℝ univ (distSq qBig pBig) := by
  apply distSq_not_convex_of_one_lt_e
  rw [rho_axis qBig pBig rfl rfl rfl (by norm_num [pBig])]
  simp only [qBig, pBig]
  nlinarith [Real.two_le_pi]

/-- `closestT_optimal_of_exact_root_of_e_lt_one`, fully concrete: helix `qEx`, point `pEx` (which
lies on the helix at `t = 0`), zero iterations: `M = π`, the start `E = π` is already the exact
root, the reported `t` is `0`. -/
example (tol : ℝ) (t : ℝ) :
    distSq qEx pEx (closestT realOps qEx pEx tol 0) ≤ distSq qEx pEx t := by
  have hN : codeN qEx pEx = 0 := by
    unfold codeN; rw [delta_ex]; simp [qEx, pEx]
  have hM : keplerM qEx pEx (codeN qEx pEx) = Real.pi := by
    rw [hN]; unfold keplerM; rw [delta_ex]; simp [qEx, pEx]
  have hE : codeE qEx pEx tol 0 = Real.pi := by
    unfold codeE
    rw [hM, if_neg (not_lt.2 Real.pi_pos.le)]
    rfl
  have hh : ¬ |qEx.h| < 2 ^ (-52 : ℤ) := by
    simp only [qEx, abs_one, not_lt]
    exact zpow_le_one_of_nonpos₀ (by norm_num) (by norm_num)
  have hval : closestT realOps qEx pEx tol 0 = 0 := by
    rw [closestT_eq _ _ _ _ hh, hE, hN, clamp_real]
    have : tOfE qEx pEx 0 Real.pi = 0 := by
      unfold tOfE; rw [delta_ex]; simp [qEx]
    rw [this, if_neg (by linarith [Real.pi_pos]), if_neg (by linarith [Real.pi_pos])]
  apply closestT_optimal_of_exact_root_of_e_lt_one qEx pEx tol 0 hh he_ex
  · rw [hM, hE, Real.sin_pi]; ring
  · rw [hval]; exact ⟨by linarith [Real.pi_pos], Real.pi_pos⟩

end Examples

end AlphaG.C16b

/-! ### Kepler's equation is the stationarity condition (pitch ≠ 0): `kepler_iff_stationary'` with
`keplerM`, `ecc`, `tOfE`, `rho`, `delta` written out in the model's terms -/

namespace AlphaG.Helix

theorem hasDerivAt_distSq (q : Params ℝ) (p : Point ℝ) (t : ℝ) :
    HasDerivAt (distSq q p) (C16b.S1 (2 * q.r * C16b.rho q p) (q.phi0 - C16b.delta q p)
      (q.h / (2 * Real.pi)) (q.z0 - p.z) t) t := by
  rw [C16b.distSq_eq_S]
  exact C16b.hasDerivAt_S _ _ _ _ _ t

/-- **Kepler ⇔ stationary.** For pitch `h ≠ 0`, with the code's substitution
`E = π − (t + φ₀ − δ) + 2πn`, `e = 4π²ρr/h²`, `M = π + 2πn − (φ₀ + 2π(p_z − z₀)/h − δ)` (where
`ρ`, `δ` are the polar coordinates of the point about the helix axis and `n` is any integer — the
code takes the floor of `temp / 2π`), the derivative of the squared distance vanishes at `t`
exactly when Kepler's equation `M = E − e sin E` holds. So a root of Kepler's equation is a
stationary point of the distance; for `|e| < 1` it is the global minimiser
(`C16b.kepler_root_is_global_min_of_e_lt_one`), for `e ≥ 1` that is left to the harness oracle. -/
theorem kepler_iff_stationary (q : Params ℝ) (p : Point ℝ) (hh : q.h ≠ 0) (t : ℝ) (n : ℤ) :
    deriv (distSq q p) t = 0 ↔
      Real.pi + 2 * Real.pi * n
          - (q.phi0 + 2 * Real.pi * (p.z - q.z0) / q.h
              - Complex.arg ⟨px realOps p - q.x0, py realOps p - q.y0⟩)
        = (Real.pi - (t + q.phi0 - Complex.arg ⟨px realOps p - q.x0, py realOps p - q.y0⟩)
              + 2 * Real.pi * n)
          - 4 * Real.pi ^ 2 * Real.sqrt ((px realOps p - q.x0) ^ 2 + (py realOps p - q.y0) ^ 2)
              * q.r / q.h ^ 2
            * Real.sin (Real.pi - (t + q.phi0
                - Complex.arg ⟨px realOps p - q.x0, py realOps p - q.y0⟩) + 2 * Real.pi * n) := by
  have := C16b.kepler_iff_stationary' q p hh n
    (Real.pi - (t + q.phi0 - C16b.delta q p) + 2 * Real.pi * n)
  rwa [show C16b.tOfE q p n (Real.pi - (t + q.phi0 - C16b.delta q p) + 2 * Real.pi * n) = t by
    unfold C16b.tOfE; ring] at this

end AlphaG.Helix
