import AlphaG.Lemmas.Ranges
import AlphaG.Lemmas.RangesAvalanches
import AlphaG.Lemmas.RangesMirror
/-
C13 — reconstruction respects the detector's cylindrical and mirror symmetry.

Only the property statements live here (proofs: `Lemmas/RangesLin.lean`, `Ranges.lean`,
`RangesAvalanches.lean`, `AvalanchesShape.lean`, `RangesMirror.lean`). Rotation: for every carrier `α` (no laws), every
`deconvBlock` / `padDeconv`, every sorter that is a function of the key sequence, every occupancy
that is **not the full ring**, all rotations. Full ring: `contiguous_ranges` returns the single
linear block `(0, n)` starting at wire 0 and equivariance fails (known finding F4). Mirror: exact
arithmetic over a linearly ordered field, `ln` constrained only by `ln (a/b) = −ln (b/a)`, pad-hit
amplitudes pairwise distinct within one (column, time bin).
-/
namespace AlphaG.C13
open AlphaG AlphaG.Ranges AlphaG.Matching AlphaG.Deconv Lean Grind Std

/-- C13 (blocks = maximal runs): when the ring is not fully occupied, the ranges returned by
`contiguous_ranges` are — without repetition, i.e. up to a permutation — exactly the maximal
runs of occupied wires on the ring (`IsRingRun`, a specification independent of the scan). -/
theorem ranges_spec (occ : List Bool) (hnf : false ∈ occ) :
    (∀ r, r ∈ contiguousRanges occ ↔ IsRingRun occ r) ∧ (contiguousRanges occ).Nodup :=
  Ranges.ranges_spec occ hnf

/-- Every occupied wire is in some block and blocks hold occupied wires only (any occupancy). -/
theorem ranges_cover (occ : List Bool) (w : Nat) :
    (w < occ.length ∧ occ.getD w false = true)
      ↔ ∃ r ∈ contiguousRanges occ, w ∈ rangeToIndices occ.length r :=
  Ranges.ranges_cover occ w

/-- No wire is in two blocks or twice in one block (any occupancy). -/
theorem ranges_disjoint (occ : List Bool) :
    ((contiguousRanges occ).flatMap (rangeToIndices occ.length)).Nodup :=
  Ranges.ranges_disjoint occ

/-- Each block is a maximal run: its ring predecessor and ring successor are free; its indices
are `rangeToLen` consecutive ring positions from its start, in ring order. -/
theorem ranges_maximal (occ : List Bool) (hnf : false ∈ occ) (r : Nat × Nat)
    (hr : r ∈ contiguousRanges occ) :
    occAt occ (r.1 + occ.length - 1) = false ∧ occAt occ (r.1 + rangeToLen occ.length r) = false
      ∧ rangeToIndices occ.length r = ringSeq occ.length r.1 (rangeToLen occ.length r) :=
  ⟨(Ranges.ranges_maximal occ hnf r hr).1, (Ranges.ranges_maximal occ hnf r hr).2,
    (Ranges.ringRun_indices (Ranges.ranges_sound occ hnf r hr)).2.2⟩

/-- C13 (blocks rotate): the blocks of the rotated occupancy are the shifted blocks, as the same
sequences in ring order (a block straddling the 255/0 seam is the same sequence as the same
block elsewhere), up to the order of the blocks in the list. -/
theorem ranges_rot (occ : List Bool) (k : Nat) (hnf : false ∈ occ) :
    (blocks (rotOcc k occ)).Perm ((blocks occ).map (shiftBlock occ.length k)) :=
  Ranges.ranges_rot occ k hnf

variable {α : Type}

/-- C13 (rotation): occupancy ≠ full ring ⇒ the avalanches of the event rotated by `k` pad
columns (wires by `8k`) are, as a multiset, the avalanches of the event with each wire moved by
`8k`; time bin, `z`, wire and pad amplitude are identical **as values of `α`** — any carrier, any
`deconvBlock`, any `padDeconv`, any sorter, any `k`. In particular bit for bit in `f64`. -/
theorem avalanches_rot (o : Ops α) (g : Geo α) (s : Sorter α) (P : Params α) (ev : Event α)
    (k : Nat) (hnf : false ∈ occupancy ev) :
    (avalanches o g s P (rot k ev)).Perm ((avalanches o g s P ev).map (rotAvalanche k)) :=
  Matching.avalanches_rot P o g s ev k hnf

/-- C13 (full ring, known finding F4): with every wire occupied `contiguous_ranges` returns the
single *linear* block `(0, n)` from wire 0 (the merge needs `len > 1`), for the rotated event
too; so the block's signal sequence of the rotated event is a cyclic shift of the original
one, and a position-dependent `deconvBlock` (like the banded, non-circulant `a_matrix` of the
code, in which wires 255 and 0 are not neighbours) breaks the key equality
`wireInput (rot k ev) (w + 8k) = wireInput ev w` on which `avalanches_rot` rests: concrete
counter-model `cmParams`/`cmEvent`. The implementation shows the same on the real `f64` code
(harness oracle text `full-ring occupancy (256/256 wires)`). -/
theorem full_ring_not_equivariant :
    (∀ occ : List Bool, occ ≠ [] → (∀ b ∈ occ, b = true) →
      contiguousRanges occ = [(0, occ.length)] ∧ blocks occ = [List.range occ.length])
    ∧ ((∀ b ∈ occupancy cmEvent, b = true)
      ∧ contiguousRanges (occupancy (rot 1 cmEvent)) = [(0, 256)]
      ∧ wireInput (assignments cmParams (rot 1 cmEvent)) ((0 + 8 * 1) % 256)
          ≠ wireInput (assignments cmParams cmEvent) 0) :=
  ⟨Ranges.full_ring_ranges, fun _ hb => (List.mem_replicate.1 (cm_occupancy ▸ hb)).2,
    by rw [cm_occupancy_rot, cm_ranges], cm_wireInput_ne⟩

section field
variable {F : Type} [Field F] [LE F] [LT F] [LawfulOrderLT F] [IsLinearOrder F] [OrderedRing F]
  [DecidableLT F] [DecidableLE F]

omit [LawfulOrderLT F] [IsLinearOrder F] [OrderedRing F] in
/-- C13 (mirror, pad hits), exact arithmetic: the pad column read in reverse row order yields
the same hits in reverse order, each with the same amplitude and `z` negated exactly. Hypotheses
on the geometry: `ln (a/b) = −ln (b/a)` and `rowZ (575 − r) = −rowZ r` (the latter follows from
`PAD_PITCH_Z = L/576`, half length `L/2`: `rowZ_mirror`). -/
theorem padHits_mirror (top : F) (g : Geo F)
    (hlog : ∀ a b : F, 0 < a → 0 < b → g.log (a / b) = - g.log (b / a))
    (hrow : ∀ r, r < 576 → rowZ (fieldOps top) g (575 - r) = - rowZ (fieldOps top) g r)
    (column : List (List F)) (hlen : column.length = 576) (t : Nat) :
    padHitsAtT (fieldOps top) g column.reverse t
      = ((padHitsAtT (fieldOps top) g column t).map
          fun h => (⟨-h.z, h.amplitude⟩ : PadHit F)).reverse :=
  Matching.padHits_mirror top g hlog hrow column hlen t

/-- C13 (mirror, avalanches): mirroring the pad rows maps every avalanche to the same wire, time
bin and amplitudes with `z` negated, provided the sorter is a correct descending sort and the
pad-hit amplitudes within one (column, time bin) are pairwise distinct (with ties an unstable
sort may pair differently after the reversal — the excluded point, DESIGN F8). -/
theorem avalanches_mirror (top : F) (g : Geo F) (s : Sorter F) (hs : IsDescSort (fieldOps top) s)
    (hlog : ∀ a b : F, 0 < a → 0 < b → g.log (a / b) = - g.log (b / a))
    (hrow : ∀ r, r < 576 → rowZ (fieldOps top) g (575 - r) = - rowZ (fieldOps top) g r)
    (P : Params F) (ev : Event F)
    (hnd : ∀ c, c < 32 → ∀ t,
      ((padHitsAtT (fieldOps top) g (padInputs P ev c) t).map (·.amplitude)).Nodup) :
    avalanches (fieldOps top) g s P (mirror ev)
      = (avalanches (fieldOps top) g s P ev).map fun a => { a with z := -a.z } :=
  Matching.avalanches_mirror top g s hs hlog hrow P ev hnd

attribute [local instance] Semiring.natCast in
/-- The row hypothesis of the mirror theorems from the code's constants (`(n : F)` is the
field's cast of a natural number). -/
theorem rowZ_mirror (top : F) (g : Geo F) (hofNat : ∀ n, g.ofNat n = (n : F))
    (hhalf : g.half + g.half = 1) (hlen : g.halfLength = 288 * g.width) (r : Nat) (hr : r < 576) :
    rowZ (fieldOps top) g (575 - r) = - rowZ (fieldOps top) g r :=
  Matching.rowZ_mirror top g hofNat hhalf hlen r hr

end field

/-! Non-vacuity: a non-full occupancy with a block across the seam, and a sorter / geometry
satisfying the mirror hypotheses (`mergeSorter_isDescSort`, `exGeo_hlog`, `exGeo_hrow` in
`Lemmas/RangesMirror.lean`). -/
example : false ∈ [true, true, false, true, false, true] := by decide
example : contiguousRanges [true, true, false, true, false, true] = [(3, 4), (5, 2)] := by decide
example : IsDescSort (fieldOps (0 : Rat)) mergeSorter := mergeSorter_isDescSort 0

end AlphaG.C13
