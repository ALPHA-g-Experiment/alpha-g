import AlphaG.Props.C08Names
import AlphaG.Props.C08Maps
/-
C08 — channel identity is unambiguous: bank names, boards and detector elements biject
(and the bank-name part of C01: the string parsers are total).

The proofs live in `Props/C08Names.lean` (names) and `Props/C08Maps.lean` (maps, run-number
dispatch, geometry); this file states the property's theorems under the names the manifest uses,
for `u32` run numbers where the others have `Nat`. Where a theorem here repeats one of those two
files word for word, what it claims is said there, at the theorem of the same name. All
tables, thresholds and `match run_number` arms are `AlphaG.Generated.*`, regenerated from the
source text on every run, so every `decide +kernel` obligation is re-checked against the
current source.
-/
namespace AlphaG.C08
open AlphaG AlphaG.Generated AlphaG.BankName AlphaG.Maps

theorem name_accept_iff (s : String) : (∃ n, parseBankName s = .ok n) ↔ s ∈ documentedNames :=
  BankName.name_accept_iff s

theorem chronobox_accept_iff (s : String) :
    (∃ i, parseChronoboxBankName s = .ok i) ↔ s ∈ documentedChronoboxNames :=
  BankName.chronobox_accept_iff s

theorem seq2_accept_iff (s : String) : parseSeq2BankName s = .ok () ↔ s ∈ documentedSeq2Names :=
  BankName.seq2_accept_iff s

theorem name_injective (s t : String) (n : Name) (hs : parseBankName s = .ok n)
    (ht : parseBankName t = .ok n) : s = t := BankName.name_injective s t n hs ht

theorem name_denotes_one (s : String) (h : s ∈ documentedNames) :
    ∃ n, parseBankName s = .ok n ∧ ValidName n ∧ ∀ m, parseBankName s = .ok m → m = n :=
  BankName.name_denotes_one s h

theorem name_surjective (n : Name) (h : ValidName n) :
    ∃ s, s ∈ documentedNames ∧ parseBankName s = .ok n := BankName.name_surjective n h

theorem board_tables_distinct :
    (alpha16Boards.map (fun r => r.1)).Nodup ∧ (alpha16Boards.map (fun r => r.2)).Nodup
    ∧ (padwingBoards.map (fun r => r.1)).Nodup ∧ (padwingBoards.map (fun r => r.2.1)).Nodup
    ∧ (padwingBoards.map (fun r => r.2.2)).Nodup
    ∧ (∀ r, r ∈ padwingBoards → r.2.1.length = 6 ∧ (∀ x, x ∈ r.2.1 → x < 256)
        ∧ r.2.2 = r.2.1.getD 0 0 + 256 * (r.2.1.getD 1 0 + 256 * (r.2.1.getD 2 0 + 256 * r.2.1.getD 3 0)))
    ∧ (∀ r, r ∈ alpha16Boards → r.2.length = 6 ∧ (∀ x, x ∈ r.2 → x < 256))
    ∧ (∀ r, r ∈ alpha16Boards → r.1.toList.length = 2)
    ∧ (∀ r, r ∈ padwingBoards → r.1.toList.length = 2) := BankName.board_tables_distinct

theorem no_shadowed_arm :
    (noShadowedArm wirePreampArms && noShadowedArm wireChannelArms && noShadowedArm pwbArms)
      = true := Maps.no_shadowed_arm

/-- The six calibration dispatches: errors below their first run, a map from there on (no gap). -/
theorem calibration_dispatch (c : String × Arms × List (String × String)) (hc : c ∈ calArms)
    (run : UInt32) :
    (run.toNat < firstMapRun c.2.1 → isErrAt c.2.1 run.toNat = true)
    ∧ (firstMapRun c.2.1 ≤ run.toNat → hasMapAt c.2.1 run.toNat = true) :=
  ⟨fun h => before_of_split _ _ (cal_split c hc) _ h run.toNat_lt,
   fun h => from_of_split _ _ (cal_split c hc) _ h run.toNat_lt⟩

theorem bankName_total (s : String) : NoPanic (parseBankName s) := BankName.bankName_total s

theorem chronoboxBankName_total (s : String) : NoPanic (parseChronoboxBankName s) :=
  BankName.chronobox_total s

/-- (Alpha16 board, channel) ↦ wire is a bijection 8 × 32 → 256 for every run with a map. -/
theorem wire_bijection (run : UInt32) (h : wireMapExists run.toNat) :
    WireBij (wirePosition run.toNat) := Maps.wire_bijection run.toNat h

/-- The same as a bijection between finite types `Fin 8 × Fin 32 → Fin 256`. -/
theorem wire_bijection_fin (run : UInt32) (h : wireMapExists run.toNat) :
    Function.Injective (wireFin run.toNat) ∧ Function.Surjective (wireFin run.toNat) :=
  Maps.wireFin_bijective run.toNat h

/-- (installed PadWing board, chip, pad channel) ↦ pad is a bijection onto the 32 × 576 pads for
every run with a map. -/
theorem pad_bijection (run : UInt32) (h : pwbMapExists run.toNat) :
    TpcPadBij (padPosition run.toNat) (installed run.toNat) padwingBoards.length :=
  Maps.pad_bijection run.toNat h

/-- The simulation run number maps exactly like run 5000 (wires, boards, pads). -/
theorem sim_eq_5000 :
    (∀ b c, wirePosition 4294967295 b c = wirePosition 5000 b c)
    ∧ (∀ b, pwbPosition 4294967295 b = pwbPosition 5000 b)
    ∧ (∀ b chip ch, padPosition 4294967295 b chip ch = padPosition 5000 b chip ch) :=
  ⟨wire_sim_eq_5000, pwb_sim_eq_5000, pad_sim_eq_5000⟩

/-- Run numbers before the first map give an error, never a value. -/
theorem before_first_map_errors (run : UInt32) :
    (run.toNat < wireFirstRun → ∀ b c, ∃ e, wirePosition run.toNat b c = .err e)
    ∧ (run.toNat < pwbFirstRun → ∀ b chip ch, ∃ e, padPosition run.toNat b chip ch = .err e) :=
  ⟨fun h b c => wire_before_first_map_errors _ run.toNat_lt h b c,
   fun h b chip ch => pad_before_first_map_errors _ run.toNat_lt h b chip ch⟩

/-- Every run number from the first map on has a map. -/
theorem no_gap (run : UInt32) :
    (wireFirstRun ≤ run.toNat → wireMapExists run.toNat)
    ∧ (pwbFirstRun ≤ run.toNat → pwbMapExists run.toNat) :=
  ⟨fun h => wire_no_gap _ run.toNat_lt h, fun h => pwb_no_gap _ run.toNat_lt h⟩

theorem wire_in_column : ∀ w, w < 256 →
    wireToPadColumn w < 32 ∧ ratAbs (phiWire w - phiCol (wireToPadColumn w)) < 1 / 64 :=
  Maps.wire_in_column

theorem padColumnToWires_fibre : ∀ c, c < 32 →
    (padColumnToWires c).2 = (padColumnToWires c).1 + 8 ∧ (padColumnToWires c).2 ≤ 256 ∧
    ∀ w, w < 256 → (((padColumnToWires c).1 ≤ w ∧ w < (padColumnToWires c).2) ↔ wireToPadColumn w = c) :=
  Maps.padColumnToWires_fibre

end AlphaG.C08
