import AlphaG.Model.Chunk
import AlphaG.Lemmas.CrcChunk
/-
C03 — PWB chunks are integrity-checked: both CRC-32C words bind every accepted byte; and the
chunk part of C01 (totality of `Chunk::try_from`, of the accessors that unwrap, and of the
`BoardId`/`AfterId` conversions).

Error patterns are byte strings `e` of the chunk's length, applied with `xorBytes`; their bit
string is `bitsOf e` (byte 0 first, least significant bit of each byte first — the order in
which the CRC register consumes the slice), so bit `8*i + j` is bit `j` of byte `i`.
-/
namespace AlphaG.Chunk
open AlphaG.Crc

/-! ### Specification (from the property text and the documented layout) -/

/-- "the (inverted) CRC-32C": bitwise complement of the 32-bit CRC value. -/
def invertedCrc32c (m : List UInt8) : Nat := 0xFFFFFFFF - crc32c m

/-- Device ids of the known PadWing boards (generated from `PADWING_BOARDS`). -/
def knownDeviceIds : List Nat := AlphaG.Generated.padwingBoards.map (fun t => t.2.2)

/-- A PadWing chunk is accepted only if its length is a multiple of 4 and at least 28, the
device id and chip id are known, flags are 0 or 1, the declared payload length matches the
slice up to at most 3 zero padding bytes, and the two stored CRC-32C words equal the inverted
CRC-32C of the 16 header bytes and of the padded payload. -/
structure ChunkWellFormed (b : List UInt8) : Prop where
  lenMul4 : b.length % 4 = 0
  lenMin : 28 ≤ b.length
  deviceKnown : leAt b 0 4 ∈ knownDeviceIds
  chipKnown : byteAt b 10 ≤ 3
  flagsKnown : byteAt b 11 ≤ 1
  lengthWindow : 24 + leAt b 14 2 ≤ b.length ∧ b.length ≤ 24 + leAt b 14 2 + 3
  paddingZero : ∀ i, 20 + leAt b 14 2 ≤ i → i < b.length - 4 → byteAt b i = 0
  headerCrc : leAt b 16 4 = invertedCrc32c (b.take 16)
  payloadCrc : leAt b (b.length - 4) 4 = invertedCrc32c ((b.drop 20).take (b.length - 24))

/-- The chunk the documented layout denotes for a slice. -/
def fields (b : List UInt8) : Chunk :=
  { deviceId := leAt b 0 4, packetSequence := leAt b 4 4, channelSequence := leAt b 8 2,
    channelId := byteAt b 10, flags := byteAt b 11, chunkId := leAt b 12 2,
    payload := (b.drop 20).take (leAt b 14 2) }

theorem crcInv_eq (m : List UInt8) : crcInv m = invertedCrc32c m := by
  unfold crcInv invertedCrc32c crc32c
  rw [BitVec.toNat_not]

theorem boardOfDeviceId_isNone (id : Nat) :
    (boardOfDeviceId id).isNone = true ↔ id ∉ knownDeviceIds :=
  Option.isNone_iff_eq_none.trans find?_key_eq_none

theorem afterOfNat_isNone : ∀ n : Nat, (afterOfNat n).isNone = true ↔ 3 < n
  | 0 | 1 | 2 | 3 => by decide
  | n + 4 => by simp [afterOfNat]

theorem decode_ok_iff (b : List UInt8) (c : Chunk) :
    decodeChunk b = .ok c ↔ ChunkWellFormed b ∧ c = fields b := by
  unfold decodeChunk
  -- (every check passes) ∧ (the record built = c); the record is `fields b` as it stands, and the
  -- four checks that are not arithmetic come out in the words of `ChunkWellFormed`
  simp only [ite_err_eq_ok, needBytes_eq_ok, need_eq_ok, ok_eq_ok, decide_eq_true_eq,
    boardOfDeviceId_isNone, afterOfNat_isNone, crcInv_eq, padded, padding, any_ne_zero_slice_iff,
    Bool.not_eq_true, ne_eq, Decidable.not_not, ← and_assoc]
  rw [show b.length - 4 - 20 = b.length - 24 by omega]
  refine and_eq_iff_of ⟨?_, fun w => ?_⟩ fun _ => rfl
  · -- the checks go into the context unnamed: `omega` finds the arithmetic ones, `‹_›` the others
    simp only [and_imp]
    intros
    exact
      { lenMul4 := by omega, lenMin := by omega, deviceKnown := ‹_›, chipKnown := by omega
        flagsKnown := by omega, lengthWindow := by omega, paddingZero := ‹_›, headerCrc := ‹_›
        payloadCrc := ‹_› }
  · have := w.lenMul4; have := w.lenMin; have := w.chipKnown; have := w.flagsKnown
    have := w.lengthWindow
    -- what is left after the four non-arithmetic checks are the length checks and panic guards
    simp only [w.deviceKnown, w.headerCrc, w.payloadCrc, eq_true w.paddingZero, and_true]
    omega

/-- C03 (acceptance): a slice is accepted iff it is a well-formed chunk. -/
theorem chunk_accept_iff (b : List UInt8) : (∃ c, decodeChunk b = .ok c) ↔ ChunkWellFormed b :=
  accept_iff_of_ok_iff (decode_ok_iff b)

/-- C03 (fields): the fields of an accepted chunk are the documented little-endian fields. -/
theorem chunk_fields (b : List UInt8) (c : Chunk) (h : decodeChunk b = .ok c) : c = fields b :=
  ((decode_ok_iff b c).1 h).2

/-- C01 (totality): no byte string makes `Chunk::try_from` panic (no slice index out of range,
no `usize` underflow in `len - 24`, `max - 3`, `len - 4`). -/
theorem chunk_total (b : List UInt8) : NoPanic (decodeChunk b) := by
  have hL := leAt_lt b 14 2
  unfold decodeChunk
  -- what is left says that each panic guard follows from the error checks above it
  simp only [noPanic_ite_err_iff, noPanic_needBytes_iff, noPanic_need_iff, noPanic_ok_iff,
    implies_true, and_true, decide_eq_true_eq]
  omega

/-- C03 (length): slices shorter than 28 bytes or not a multiple of 4 are rejected as incomplete. -/
theorem chunk_len (b : List UInt8) (h : b.length < 28 ∨ b.length % 4 ≠ 0) :
    decodeChunk b = .err .incompleteSlice := by
  unfold decodeChunk
  rcases h with h | h
  · simp [h]
  · by_cases h' : b.length < 28 <;> simp [h, h']

theorem padLen_eq (n : Nat) : padLen n = (4 - n % 4) % 4 := by
  unfold padLen; split <;> omega

theorem fields_payload_length (b : List UInt8) (wf : ChunkWellFormed b) :
    (fields b).payload.length = leAt b 14 2 := by
  have := wf.lengthWindow
  simp only [fields, List.length_take, List.length_drop]; omega

/-- Accepted payload lengths: 1..=65535, and the slice is header + payload + padding to a
multiple of 4 + trailer. -/
theorem chunk_payload_len (b : List UInt8) (c : Chunk) (h : decodeChunk b = .ok c) :
    1 ≤ c.payload.length ∧ c.payload.length ≤ 65535
      ∧ b.length = 24 + c.payload.length + padLen c.payload.length := by
  obtain ⟨wf, rfl⟩ := (decode_ok_iff b c).1 h
  have w1 := wf.lenMul4; have w2 := wf.lenMin; have w6 := wf.lengthWindow
  have hL := leAt_lt b 14 2
  have hp := padLen_eq (leAt b 14 2)
  rw [fields_payload_length b wf]
  omega

theorem headerBytes_fields (b : List UInt8) (wf : ChunkWellFormed b) :
    headerBytes (fields b) = b.take 16 := by
  have w2 := wf.lenMin
  rw [headerBytes, fields_payload_length b wf]
  -- each field is a window of `b`; consecutive windows glue to a prefix
  simp (disch := omega) only [fields, byteAt_eq_leAt, leBytes_leAt, List.drop_zero,
    ← List.take_add, Nat.reduceAdd]

theorem paddedPayload_fields (b : List UInt8) (wf : ChunkWellFormed b) :
    paddedPayload (fields b) = (b.drop 20).take (b.length - 24) := by
  have w1 := wf.lenMul4; have w2 := wf.lenMin; have w6 := wf.lengthWindow
  have hp := padLen_eq (leAt b 14 2)
  have hz := (eq_replicate_zero_iff b (20 + leAt b 14 2) (padLen (leAt b 14 2)) (by omega)).2
    (fun i h1 h2 => wf.paddingZero i h1 (by omega))
  rw [paddedPayload, fields_payload_length b wf, ← hz, fields, ← List.drop_drop, ← List.take_add]
  congr 1; omega

theorem headerCrcVal_fields (b : List UInt8) (wf : ChunkWellFormed b) :
    headerCrcVal (fields b) = leAt b 16 4 := by
  unfold headerCrcVal; rw [headerBytes_fields b wf, crcInv_eq, wf.headerCrc]

theorem payloadCrcVal_fields (b : List UInt8) (wf : ChunkWellFormed b) :
    payloadCrcVal (fields b) = leAt b (b.length - 4) 4 := by
  unfold payloadCrcVal; rw [paddedPayload_fields b wf, crcInv_eq, wf.payloadCrc]

/-- C03 (round trip): re-encoding an accepted chunk reproduces the input bytes exactly —
padding and both CRC words included: no byte of an accepted chunk is unconstrained. -/
theorem chunk_roundtrip (b : List UInt8) (c : Chunk) (h : decodeChunk b = .ok c) :
    encodeChunk c = b := by
  obtain ⟨wf, rfl⟩ := (decode_ok_iff b c).1 h
  have w1 := wf.lenMul4; have w2 := wf.lenMin
  rw [encodeChunk, headerCrcVal_fields b wf, payloadCrcVal_fields b wf, headerBytes_fields b wf,
    paddedPayload_fields b wf, show b.length - 4 = 20 + (b.length - 24) by omega]
  simp (disch := omega) only [leBytes_leAt, ← List.take_add, Nat.reduceAdd]
  exact List.take_of_length_le (by omega)

/-- C03 (injectivity): two accepted slices that decode to the same chunk are the same slice:
decoding loses no accepted byte (header, both CRC words, payload and padding are all determined by
the decoded fields). -/
theorem chunk_decode_injective (b b' : List UInt8) (c : Chunk)
    (h : decodeChunk b = .ok c) (h' : decodeChunk b' = .ok c) : b = b' := by
  rw [← chunk_roundtrip b c h, ← chunk_roundtrip b' c h']

/-- Re-encoding an accepted chunk gives an accepted slice with the same fields (the encoder never
leaves the accepted set). -/
theorem chunk_encode_accepted (b : List UInt8) (c : Chunk) (h : decodeChunk b = .ok c) :
    decodeChunk (encodeChunk c) = .ok c := by
  rw [chunk_roundtrip b c h]; exact h

/-! ### `BoardId` / `AfterId` conversions (C01): total by construction (`Option`-valued,
a bounded table scan); what they accept. -/

theorem afterOfNat_some_iff (n : Nat) : (afterOfNat n).isSome = true ↔ n ≤ 3 := by
  rw [← Nat.not_lt, ← afterOfNat_isNone]; cases afterOfNat n <;> simp

theorem boardOfDeviceId_some_iff (id : Nat) :
    (boardOfDeviceId id).isSome = true ↔ id ∈ knownDeviceIds := by
  rw [← Decidable.not_not (p := id ∈ knownDeviceIds), ← boardOfDeviceId_isNone]
  cases boardOfDeviceId id <;> simp

theorem afterOfChar_some_iff (ch : Char) :
    (afterOfChar ch).isSome = true ↔ ch = 'A' ∨ ch = 'B' ∨ ch = 'C' ∨ ch = 'D' := by
  unfold afterOfChar
  by_cases hA : ch = 'A'
  · simp [hA]
  by_cases hB : ch = 'B'
  · simp [hB]
  by_cases hC : ch = 'C'
  · simp [hC]
  by_cases hD : ch = 'D'
  · simp [hD]
  simp [hA, hB, hC, hD]

/-! ### The accessors of a decoded chunk -/

/-- `header_crc32c()` of a decoded chunk recomputes the stored header word (and its
`u16::try_from(payload.len()).unwrap()` does not panic). -/
theorem chunk_header_crc32c (b : List UInt8) (c : Chunk) (h : decodeChunk b = .ok c) :
    headerCrc32c c = .ok (leAt b 16 4) := by
  have hl := (chunk_payload_len b c h).2.1
  obtain ⟨wf, rfl⟩ := (decode_ok_iff b c).1 h
  unfold headerCrc32c
  rw [need_eq (by simp only [decide_eq_true_eq]; omega), headerCrcVal_fields b wf]

/-- `payload_crc32c()` of a decoded chunk recomputes the stored payload word. -/
theorem chunk_payload_crc32c (b : List UInt8) (c : Chunk) (h : decodeChunk b = .ok c) :
    payloadCrc32c c = .ok (leAt b (b.length - 4) 4) := by
  obtain ⟨wf, rfl⟩ := (decode_ok_iff b c).1 h
  unfold payloadCrc32c
  rw [payloadCrcVal_fields b wf]

/-- `board_id()` of a decoded chunk: the `unwrap` is safe and the board has the chunk's id. -/
theorem chunk_board_id (b : List UInt8) (c : Chunk) (h : decodeChunk b = .ok c) :
    ∃ t, boardId c = .ok t ∧ t ∈ AlphaG.Generated.padwingBoards ∧ t.2.2 = leAt b 0 4 := by
  obtain ⟨wf, rfl⟩ := (decode_ok_iff b c).1 h
  obtain ⟨t, ht⟩ := Option.isSome_iff_exists.1 ((boardOfDeviceId_some_iff _).2 wf.deviceKnown)
  exact ⟨t, by unfold boardId fields; simp only [ht], (find?_key_eq_some ht).symm⟩

/-- `after_id()` of a decoded chunk: the `unwrap` is safe. -/
theorem chunk_after_id (b : List UInt8) (c : Chunk) (h : decodeChunk b = .ok c) :
    ∃ a, afterId c = .ok a ∧ afterOfNat (byteAt b 10) = some a := by
  obtain ⟨wf, rfl⟩ := (decode_ok_iff b c).1 h
  obtain ⟨a, ha⟩ := Option.isSome_iff_exists.1 ((afterOfNat_some_iff _).2 wf.chipKnown)
  exact ⟨a, by unfold afterId fields; simp only [ha], ha⟩

/-- C01 (accessors): no accessor of a decoded chunk panics. -/
theorem chunk_accessors_total (b : List UInt8) (c : Chunk) (h : decodeChunk b = .ok c) :
    NoPanic (boardId c) ∧ NoPanic (afterId c) ∧ NoPanic (headerCrc32c c)
      ∧ NoPanic (payloadCrc32c c) := by
  obtain ⟨t, ht, -⟩ := chunk_board_id b c h
  obtain ⟨a, ha, -⟩ := chunk_after_id b c h
  rw [ht, ha, chunk_header_crc32c b c h, chunk_payload_crc32c b c h]
  exact ⟨noPanic_ok _, noPanic_ok _, noPanic_ok _, noPanic_ok _⟩

/-! ### Error detection -/

/-- Both CRC regions of an accepted chunk have zero residue: the header region is bytes
0..20 (header + stored header word), the payload region is bytes 20..len (payload, padding,
stored payload word). Both are fixed by the slice length alone — the declared length field
does not move them. -/
theorem accepted_residues (b : List UInt8) (c : Chunk) (h : decodeChunk b = .ok c) :
    run ONES (bitsOf (b.take 20)) = 0#32 ∧ run ONES (bitsOf (b.drop 20)) = 0#32 := by
  obtain ⟨wf, rfl⟩ := (decode_ok_iff b c).1 h
  have w2 := wf.lenMin
  refine ⟨?_, ?_⟩
  · apply residue_of_stored (b.take 20) 16 (by simp; omega)
    have e1 : leAt (b.take 20) 16 4 = leAt b 16 4 := leAt_take b 20 16 4 (by omega)
    have e2 : (b.take 20).take 16 = b.take 16 := by
      rw [List.take_take]; simp
    rw [e1, e2, crcInv_eq]; exact wf.headerCrc
  · apply residue_of_stored (b.drop 20) (b.length - 24) (by simp; omega)
    have e1 : leAt (b.drop 20) (b.length - 24) 4 = leAt b (b.length - 4) 4 := by
      rw [leAt_drop, show 20 + (b.length - 24) = b.length - 4 by omega]
    rw [e1, crcInv_eq]; exact wf.payloadCrc

/-- The core of every detection claim: if an accepted chunk xor an error pattern of the same
length is accepted again, the pattern has zero residue in both CRC regions (linearity). -/
theorem error_residues (b e : List UInt8) (c c' : Chunk) (hlen : e.length = b.length)
    (h : decodeChunk b = .ok c) (h' : decodeChunk (xorBytes b e) = .ok c') :
    run 0#32 ((bitsOf e).take 160) = 0#32 ∧ run 0#32 ((bitsOf e).drop 160) = 0#32 := by
  obtain ⟨r1, r2⟩ := accepted_residues b c h
  obtain ⟨r1', r2'⟩ := accepted_residues _ c' h'
  have hb : (bitsOf b).length = (bitsOf e).length := by rw [length_bitsOf, length_bitsOf, hlen]
  -- the 20-byte cut is bit `8 * 20 = 160` of the bit string (`bitsOf_take`, `bitsOf_drop`)
  rw [bitsOf_take, bitsOf_xorBytes, List.take_zipWith] at r1'
  rw [bitsOf_drop, bitsOf_xorBytes, List.drop_zipWith] at r2'
  rw [bitsOf_take] at r1
  rw [bitsOf_drop] at r2
  have x1 := run_xor ((bitsOf b).take (8 * 20)) ((bitsOf e).take (8 * 20)) ONES 0#32
    (by simp only [List.length_take]; omega)
  have x2 := run_xor ((bitsOf b).drop (8 * 20)) ((bitsOf e).drop (8 * 20)) ONES 0#32
    (by simp only [List.length_drop]; omega)
  rw [BitVec.xor_zero, r1', r1, BitVec.zero_xor] at x1
  rw [BitVec.xor_zero, r2', r2, BitVec.zero_xor] at x2
  exact ⟨x1.symm, x2.symm⟩

/-- C03 (odd weight): flipping any odd number of bits (in particular 1 or 3) anywhere in an
accepted chunk — header fields, declared length, padding, either CRC word — is rejected. -/
theorem detect_odd (b e : List UInt8) (c : Chunk) (h : decodeChunk b = .ok c)
    (hlen : e.length = b.length) (hodd : (bitsOf e).count true % 2 = 1) :
    ∀ c', decodeChunk (xorBytes b e) ≠ .ok c' := by
  intro c' h'
  obtain ⟨t, d⟩ := error_residues b e c c' hlen h h'
  have hc := count_take_add_drop (bitsOf e) 160
  by_cases ht : ((bitsOf e).take 160).count true % 2 = 1
  · exact run_zero_count_odd _ ht t
  · exact run_zero_count_odd _ (by omega) d

/-- C03 (1 or 3 bits), the wording of the property. -/
theorem detect_one_or_three (b e : List UInt8) (c : Chunk) (h : decodeChunk b = .ok c)
    (hlen : e.length = b.length)
    (hw : (bitsOf e).count true = 1 ∨ (bitsOf e).count true = 3) :
    ∀ c', decodeChunk (xorBytes b e) ≠ .ok c' :=
  detect_odd b e c h hlen (by omega)

/-- C03 (bursts): any non-zero error confined to ≤ 32 contiguous bits, at any bit offset —
inside a field, inside a CRC word, or straddling the header / header-CRC / payload /
payload-CRC boundaries — is rejected. Contiguous in the order of `bitsOf`: byte 0 first, least
significant bit of each byte first (32 neighbouring bits in most-significant-first numbering need not
be such a burst). -/
theorem detect_burst32 (b e : List UInt8) (c : Chunk) (h : decodeChunk b = .ok c)
    (hlen : e.length = b.length) (a z : Nat) (bs : List Bool)
    (hshape : bitsOf e = List.replicate a false ++ bs ++ List.replicate z false)
    (hbs : bs.length ≤ 32) (hne : true ∈ bs) :
    ∀ c', decodeChunk (xorBytes b e) ≠ .ok c' := by
  intro c' h'
  obtain ⟨t, d⟩ := error_residues b e c c' hlen h h'
  rw [hshape] at t d
  have := burst_split_zero 160 a z bs hbs t d true hne
  cases this

/-- C03 (2 bits): flipping any two bits of an accepted chunk is rejected. Two bits in
different CRC regions are two single-bit errors; two bits in one region are at distance
< 524 320 bits, below the order 2^31 - 1 of x modulo the generator (`return_iff_dvd`). Full
strength: no bound on the payload beyond the format's own 65535. -/
theorem detect_two (b e : List UInt8) (c : Chunk) (h : decodeChunk b = .ok c)
    (hlen : e.length = b.length) (hw : (bitsOf e).count true = 2) :
    ∀ c', decodeChunk (xorBytes b e) ≠ .ok c' := by
  intro c' h'
  obtain ⟨t, d⟩ := error_residues b e c c' hlen h h'
  -- at most 65560 bytes
  obtain ⟨-, hmax, hb⟩ := chunk_payload_len b c h
  have hp := padLen_eq c.payload.length
  have hc := count_take_add_drop (bitsOf e) 160
  have hbits : (bitsOf e).length = 8 * b.length := by rw [length_bitsOf, hlen]
  by_cases ht : ((bitsOf e).take 160).count true = 1
  · exact run_zero_count_odd _ (by omega) t
  · by_cases ht2 : ((bitsOf e).take 160).count true = 2
    · exact run_zero_count_two _ ht2 (by simp only [List.length_take]; omega) t
    · have hd2 : ((bitsOf e).drop 160).count true = 2 := by omega
      exact run_zero_count_two _ hd2 (by simp only [List.length_drop]; omega) d

/-- C03 (summary): changing any 1 to 3 bits of an accepted chunk always yields a rejection. -/
theorem detect_upto3 (b e : List UInt8) (c : Chunk) (h : decodeChunk b = .ok c)
    (hlen : e.length = b.length)
    (hw : 1 ≤ (bitsOf e).count true ∧ (bitsOf e).count true ≤ 3) :
    ∀ c', decodeChunk (xorBytes b e) ≠ .ok c' := by
  by_cases h2 : (bitsOf e).count true = 2
  · exact detect_two b e c h hlen h2
  · exact detect_odd b e c h hlen (by omega)

/-! ### Non-vacuity: a concrete accepted chunk (board "00", chip D, end-of-message, payload
`01 02 03` + one padding byte) and concrete error patterns satisfying the hypotheses. -/

def exampleChunk : List UInt8 :=
  [236, 40, 255, 135, 1, 0, 0, 0, 2, 0, 3, 1, 5, 0, 3, 0, 204, 49, 212, 88, 1, 2, 3, 0, 20, 228, 85, 17]

theorem exampleChunk_ok : decodeChunk exampleChunk = .ok (fields exampleChunk) := by
  decide +kernel

example : ChunkWellFormed exampleChunk := (chunk_accept_iff _).1 ⟨_, exampleChunk_ok⟩
example : encodeChunk (fields exampleChunk) = exampleChunk := by decide +kernel

/-- bit 117 (in the declared-length field) flipped -/
def exampleFlip1 : List UInt8 := [0, 0, 0, 0, 0, 0, 0, 0, 0, 0, 0, 0, 0, 0, 32, 0, 0, 0, 0, 0, 0, 0, 0, 0, 0, 0, 0, 0]
/-- bits 3 (device id) and 200 (payload CRC word) flipped -/
def exampleFlip2 : List UInt8 := [8, 0, 0, 0, 0, 0, 0, 0, 0, 0, 0, 0, 0, 0, 0, 0, 0, 0, 0, 0, 0, 0, 0, 0, 0, 1, 0, 0]
/-- bits 170 and 190 (both in the payload region) flipped -/
def exampleFlip2' : List UInt8 := [0, 0, 0, 0, 0, 0, 0, 0, 0, 0, 0, 0, 0, 0, 0, 0, 0, 0, 0, 0, 0, 4, 0, 64, 0, 0, 0, 0]
/-- a burst of 32 bits starting at bit 140: straddles the header CRC word and the payload -/
def exampleBurst : List UInt8 := [0, 0, 0, 0, 0, 0, 0, 0, 0, 0, 0, 0, 0, 0, 0, 0, 0, 48, 66, 0, 3, 8, 0, 0, 0, 0, 0, 0]

example : ∀ c', decodeChunk (xorBytes exampleChunk exampleFlip1) ≠ .ok c' :=
  detect_odd _ _ _ exampleChunk_ok rfl (by decide)
example : ∀ c', decodeChunk (xorBytes exampleChunk exampleFlip2) ≠ .ok c' :=
  detect_two _ _ _ exampleChunk_ok rfl (by decide)
example : ∀ c', decodeChunk (xorBytes exampleChunk exampleFlip2') ≠ .ok c' :=
  detect_two _ _ _ exampleChunk_ok rfl (by decide)
example : ∀ c', decodeChunk (xorBytes exampleChunk exampleBurst) ≠ .ok c' :=
  detect_burst32 _ _ _ exampleChunk_ok rfl 140 52
    [true, true, false, false, false, true, false, false, false, false, true, false, false, false,
     false, false, false, false, false, false, true, true, false, false, false, false, false, false,
     false, false, false, true]
    (by decide +kernel) (by decide) (by decide)

end AlphaG.Chunk
