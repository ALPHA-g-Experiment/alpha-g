import AlphaG.Lemmas.PwbWave
import AlphaG.Lemmas.PwbEncode
/-
C05 — PWB v2 packet decoding is exact and every sent channel has its full waveform
(and the PWB-packet part of C01: totality of `PwbV2Packet::try_from(&[u8])`, `waveform_at`,
`ChannelId::try_from(u16)`, `suppression_baseline`).
The guard chain is first read off as `Raw` (the checks as `simp` leaves them) and `Raw` is then shown
to be the documented `PwbWellFormed`. The mask loop, the block loop, `waveform_at` and the encoder
have their lemmas in `Lemmas/Pwb*.lean`.
-/
namespace AlphaG.Pwb

/-! ### Specification (from the documented layout, not from the decoder) -/

/-- Size in bytes of one channel block: 2 (readout index) + 2 (sample count) + 2 per sample,
padded with two zero bytes to a multiple of 4 when the sample count is odd. -/
def blockBytes (req : Nat) : Nat := 4 + 2 * req + (if req % 2 = 1 then 2 else 0)

/-- Zero-based mask bit numbers of the sent channels, ascending (mask bit `i` = readout index
`i + 1`). -/
def sentBits (b : List UInt8) : List Nat := setBits (leAt b 24 10) 79
def thrBits (b : List UInt8) : List Nat := setBits (leAt b 34 10) 79

/-- Byte offset of the block of the `k`-th sent channel. -/
def blockOff (b : List UInt8) (k : Nat) : Nat := 52 + blockBytes (leAt b 22 2) * k

/-- The documented layout of a PWB v2 packet. All multi-byte fields little endian. -/
structure PwbWellFormed (b : List UInt8) : Prop where
  minLen : 56 ≤ b.length
  version : byteAt b 0 = 2
  chip : 65 ≤ byteAt b 1 ∧ byteAt b 1 ≤ 68
  compression : byteAt b 2 = 0
  trigger : byteAt b 3 = 0 ∨ byteAt b 3 = 1 ∨ byteAt b 3 = 3
  mac : ∃ t ∈ AlphaG.Generated.padwingBoards, t.2.1 = macOf b
  zero1819 : byteAt b 18 = 0 ∧ byteAt b 19 = 0
  lastSca : leAt b 20 2 ≤ 511
  req : leAt b 22 2 ≤ 511
  sentBit79 : (leAt b 24 10).testBit 79 = false
  thrBit79 : (leAt b 34 10).testBit 79 = false
  /-- no bytes missing or left over -/
  length : b.length = 52 + blockBytes (leAt b 22 2) * (sentBits b).length + 4
  /-- one block per sent channel in ascending readout order: that channel's readout index,
  the requested sample count, zero padding when odd -/
  blocks : ∀ k (hk : k < (sentBits b).length),
    leAt b (blockOff b k) 2 = (sentBits b)[k] + 1
    ∧ leAt b (blockOff b k + 2) 2 = leAt b 22 2
    ∧ (leAt b 22 2 % 2 = 1 → leAt b (blockOff b k + 4 + 2 * leAt b 22 2) 2 = 0)
  marker : leAt b (b.length - 4) 4 = 0xCCCCCCCC

/-- The packet the documentation denotes for a slice. -/
def fields (b : List UInt8) : PwbPacket :=
  { afterId := byteAt b 1 - 65, compression := byteAt b 2, triggerSource := byteAt b 3,
    boardName := ((boardOfMac (macOf b)).getD ("", [], 0)).1,
    mac := ((boardOfMac (macOf b)).getD ("", [], 0)).2.1,
    deviceId := ((boardOfMac (macOf b)).getD ("", [], 0)).2.2,
    triggerDelay := leAt b 10 2, triggerTimestamp := leAt b 12 6,
    lastScaCell := leAt b 20 2, requestedSamples := leAt b 22 2,
    channelsSent := chansOf (sentBits b), channelsOverThreshold := chansOf (thrBits b),
    eventCounter := leAt b 44 4, fifoMaxDepth := leAt b 48 2,
    eventDescriptorWriteDepth := byteAt b 50, eventDescriptorReadDepth := byteAt b 51,
    data := i16s (b.drop 52) }

/-! ### The decoder's acceptance condition, as it falls out of the guard chain -/

/-- The record built by the decoder's last line. -/
def decoded (b : List UInt8) : PwbPacket :=
  { afterId := byteAt b 1 - 65, compression := byteAt b 2, triggerSource := byteAt b 3,
    boardName := ((boardOfMac (macOf b)).getD ("", [], 0)).1,
    mac := ((boardOfMac (macOf b)).getD ("", [], 0)).2.1,
    deviceId := ((boardOfMac (macOf b)).getD ("", [], 0)).2.2,
    triggerDelay := leAt b 10 2, triggerTimestamp := leAt b 12 8,
    lastScaCell := leAt b 20 2, requestedSamples := requested b,
    channelsSent := chansOf (sentIdx b), channelsOverThreshold := chansOf (thrIdx b),
    eventCounter := leAt b 44 4, fifoMaxDepth := leAt b 48 2,
    eventDescriptorWriteDepth := byteAt b 50, eventDescriptorReadDepth := byteAt b 51,
    data := i16s (b.drop 52) }

/-- The error checks of `decodePwb` in code order, in the form `simp` leaves them in
(`decodePwb_ok_iff_raw`); the panic guards between them follow from these. -/
structure Raw (b : List UInt8) : Prop where
  len : 56 ≤ b.length
  version : byteAt b 0 = 2
  chip : 65 ≤ byteAt b 1 ∧ byteAt b 1 ≤ 68
  compression : byteAt b 2 = 0
  trigger : byteAt b 3 = 0 ∨ byteAt b 3 = 1 ∨ byteAt b 3 = 3
  mac : ¬boardOfMac (macOf b) = none
  zero : leAt b 18 2 = 0
  lastSca : leAt b 20 2 ≤ 511
  req : requested b ≤ 511
  sent79 : byteAt b 33 &&& 128 = 0
  thr79 : byteAt b 43 &&& 128 = 0
  length : bpc (requested b) * (chansOf (sentIdx b)).length + 4 = b.length - 52
  blocks : BlocksOk b (requested b) (chansOf (sentIdx b)) 0
  marker : leAt b (b.length - 4) 4 = 0xCCCCCCCC

theorem sentIdx_eq (b : List UInt8) (h : byteAt b 33 &&& 128 = 0) : sentIdx b = sentBits b :=
  maskLoop_reverse _ 79 (mask_lt_of_bit79 b 24 ((mask_bit79 b 24).1 h)) (by omega)

theorem thrIdx_eq (b : List UInt8) (h : byteAt b 43 &&& 128 = 0) : thrIdx b = thrBits b :=
  maskLoop_reverse _ 79 (mask_lt_of_bit79 b 34 ((mask_bit79 b 34).1 h)) (by omega)

theorem sentIdx_ok (b : List UInt8) (h : byteAt b 33 &&& 128 = 0) :
    (sentIdx b).all idxOk = true := by
  rw [sentIdx_eq b h]; exact all_idxOk _ (setBits_lt _ _)

theorem thrIdx_ok (b : List UInt8) (h : byteAt b 43 &&& 128 = 0) :
    (thrIdx b).all idxOk = true := by
  rw [thrIdx_eq b h]; exact all_idxOk _ (setBits_lt _ _)

theorem sent_length (b : List UInt8) : (chansOf (sentBits b)).length = (sentBits b).length :=
  chansOf_length _ (setBits_lt _ _)

theorem bpc_eq_blockBytes (req : Nat) : bpc req = blockBytes req := by
  rw [bpc_eq]; unfold blockBytes; split <;> omega

/-- `waveform_at` counts in `i16` samples, the decoder and the documentation in bytes. -/
theorem blockBytes_mul (req k : Nat) : blockBytes req * k = 2 * (spc req * k) := by
  rw [← bpc_eq_blockBytes, bpc_eq, spc_eq, ← Nat.mul_assoc]; congr 1; omega

/-- At most 79 blocks of at most 1028 bytes: the `usize` arithmetic on the data section is far
from overflow. -/
theorem sent_data_le (b : List UInt8) (h79 : byteAt b 33 &&& 128 = 0) (hreq : requested b ≤ 511) :
    bpc (requested b) * (chansOf (sentIdx b)).length ≤ 1028 * 79 := by
  have := bpc_eq (requested b)
  rw [sentIdx_eq b h79, sent_length b]
  exact Nat.mul_le_mul (by omega) (setBits_length_le _ _)

/- `whnf` (unifier, linters) must not try to evaluate the mask loop on an open term. -/
attribute [local irreducible] sentIdx thrIdx BlocksOk i16s maskLoop

theorem decodePwb_ok_iff_raw (b : List UInt8) (p : PwbPacket) :
    decodePwb b = .ok p ↔ Raw b ∧ p = decoded b := by
  unfold decodePwb
  -- (every check passes) ∧ (the record built = p); the record is `decoded b`
  simp only [ite_err_eq_ok, needBytes_eq_ok, need_eq_ok, ok_eq_ok, checkBlocks_eq_ok,
    decide_eq_true_eq, ne_eq, Decidable.not_not, ← and_assoc]
  refine and_eq_iff_of ⟨?_, fun r => ?_⟩ fun _ => rfl
  · -- the checks go into the context unnamed: `omega` finds the arithmetic ones, `‹_›` the others
    simp only [and_imp]
    intros
    exact
      { len := by omega, version := by omega, chip := by omega, compression := by omega
        trigger := by omega, mac := ‹_›, zero := by omega, lastSca := by omega, req := by omega
        sent79 := by omega, thr79 := by omega, length := by omega, blocks := ‹_›
        marker := by omega }
  · have hmul := sent_data_le b r.sent79 r.req
    have h56 := r.len; have hc := r.chip; have ht := r.trigger; have h1 := r.lastSca
    have h2 := r.req; have hL := r.length
    -- the checks that are not arithmetic are fields of `Raw`; what is left are bounds
    simp only [r.version, r.compression, r.mac, r.zero, r.sent79, r.thr79, r.blocks, r.marker,
      sentIdx_ok b r.sent79, thrIdx_ok b r.thr79, not_false_eq_true, and_true]
    omega

theorem boardOfMac_ne_none (m : List Nat) :
    ¬boardOfMac m = none ↔ ∃ t ∈ AlphaG.Generated.padwingBoards, t.2.1 = m := by
  rw [boardOfMac, find?_key_eq_none, Decidable.not_not, List.mem_map]

theorem leAt18_zero (b : List UInt8) : leAt b 18 2 = 0 ↔ byteAt b 18 = 0 ∧ byteAt b 19 = 0 := by
  simp only [leAt, Nat.reduceAdd]; omega

theorem blockOk_iff (b : List UInt8) (req n k i : Nat) (c : ChannelId)
    (hlen : 52 + bpc req * n + 4 ≤ b.length) (hk : k < n)
    (hc : readoutToChannel (i + 1) = some c) :
    BlockOk b req c k ↔
      leAt b (52 + bpc req * k) 2 = i + 1 ∧ leAt b (52 + bpc req * k + 2) 2 = req
      ∧ (req % 2 = 1 → leAt b (52 + bpc req * k + 4 + 2 * req) 2 = 0) := by
  have hb := bpc_eq req
  have hm := block_le (B := bpc req) hk
  unfold BlockOk
  constructor
  · rintro ⟨-, h2, -, h4, -, h6⟩
    exact ⟨readout_inj h2 hc, h4, fun ho => h6 (by omega)⟩
  · rintro ⟨h1, h2, h3⟩
    exact ⟨by omega, h1 ▸ hc, by omega, h2, by omega, fun ho => h3 (by omega)⟩

/-- Past the length check, the block loop over the sent channels checks exactly the documented
content of every block. -/
theorem blocksOk_sent_iff (b : List UInt8)
    (hlen : 52 + blockBytes (leAt b 22 2) * (sentBits b).length + 4 ≤ b.length) :
    BlocksOk b (requested b) (chansOf (sentBits b)) 0 ↔
      ∀ k (hk : k < (sentBits b).length),
        leAt b (blockOff b k) 2 = (sentBits b)[k] + 1
        ∧ leAt b (blockOff b k + 2) 2 = leAt b 22 2
        ∧ (leAt b 22 2 % 2 = 1 → leAt b (blockOff b k + 4 + 2 * leAt b 22 2) 2 = 0) := by
  have hn := sent_length b
  have one := fun k (hk : k < (sentBits b).length) =>
    blockOk_iff b (requested b) _ k _ _ (bpc_eq_blockBytes _ ▸ hlen) hk
      (chansOf_getElem _ (setBits_lt _ _) k (hn ▸ hk) hk)
  simp only [requested, bpc_eq_blockBytes] at one
  rw [blocksOk_iff]
  simp only [blockOff, Nat.zero_add]
  exact ⟨fun H k hk => (one k hk).1 (H k (hn ▸ hk)),
    fun H k hk => (one k (hn ▸ hk)).2 (H k (hn ▸ hk))⟩

theorem raw_iff_wf (b : List UInt8) : Raw b ↔ PwbWellFormed b := by
  have hn := sent_length b
  constructor
  · intro r
    have hs := sentIdx_eq b r.sent79
    have h56 := r.len
    have hL := r.length
    have hB := r.blocks
    rw [hs, hn, bpc_eq_blockBytes, requested] at hL
    rw [hs] at hB
    exact ⟨r.len, r.version, r.chip, r.compression, r.trigger, (boardOfMac_ne_none _).1 r.mac,
      (leAt18_zero b).1 r.zero, r.lastSca, r.req, (mask_bit79 b 24).1 r.sent79,
      (mask_bit79 b 34).1 r.thr79, by omega, (blocksOk_sent_iff b (by omega)).1 hB, r.marker⟩
  · intro w
    have h79 := (mask_bit79 b 24).2 w.sentBit79
    have hs := sentIdx_eq b h79
    have hL := w.length
    refine ⟨w.minLen, w.version, w.chip, w.compression, w.trigger, (boardOfMac_ne_none _).2 w.mac,
      (leAt18_zero b).2 w.zero1819, w.lastSca, w.req, h79, (mask_bit79 b 34).2 w.thrBit79, ?_, ?_,
      w.marker⟩
    · rw [hs, hn, bpc_eq_blockBytes, requested]; omega
    · rw [hs]; exact (blocksOk_sent_iff b (by omega)).2 w.blocks

theorem timestamp_eq (b : List UInt8) (h : leAt b 18 2 = 0) : leAt b 12 8 = leAt b 12 6 := by
  rw [leAt_add b 12 6 2, h, Nat.mul_zero, Nat.add_zero]

theorem decoded_eq_fields (b : List UInt8) (r : Raw b) : decoded b = fields b := by
  unfold decoded fields
  rw [sentIdx_eq b r.sent79, thrIdx_eq b r.thr79, timestamp_eq b r.zero]
  rfl

/-- Master characterisation: the decoder accepts exactly the well-formed slices and returns the
documented fields. -/
theorem decodePwb_ok_iff (b : List UInt8) (p : PwbPacket) :
    decodePwb b = .ok p ↔ PwbWellFormed b ∧ p = fields b := by
  rw [decodePwb_ok_iff_raw, raw_iff_wf]
  exact and_congr_right fun w => by rw [decoded_eq_fields b ((raw_iff_wf b).2 w)]

/-- C05 (acceptance): a payload is accepted iff it follows the documented layout. -/
theorem pwb_accept_iff (b : List UInt8) : (∃ p, decodePwb b = .ok p) ↔ PwbWellFormed b :=
  accept_iff_of_ok_iff (decodePwb_ok_iff b)

/-- C05 (fields): every accessor of an accepted packet is the documented field. -/
theorem pwb_fields (b : List UInt8) (p : PwbPacket) (h : decodePwb b = .ok p) : p = fields b :=
  ((decodePwb_ok_iff b p).1 h).2

local macro "nb" : tactic => `(tactic| apply noPanic_needBytes (by omega))
local macro "ie " h:ident : tactic => `(tactic| (apply noPanic_ite_err; intro $h:ident))

/-- C01/C05 (totality): no byte string makes the PWB packet decoder panic (no out-of-bounds
slice, no failing `unwrap`, no `u16`/`usize` overflow). -/
theorem pwb_total (b : List UInt8) : NoPanic (decodePwb b) := by
  unfold decodePwb
  -- In the order of the model: one `nb` per slice read (from `56 ≤ len`), one `ie` per error check.
  -- Not `simp only [noPanic_*_iff]` and `omega` as for the other decoders, because three guards are
  -- not arithmetic: the `unwrap`s in the two mask loops (`sentIdx_ok`, `thrIdx_ok`, each from the
  -- bit-79 check before it) and the block loop (`noPanic_checkBlocks`, from the length check).
  ie hlen
  have hlen : 56 ≤ b.length := by omega
  nb; ie _h0   -- version
  nb; ie _h1   -- AFTER id
  nb; ie _h2   -- compression
  nb; ie _h3   -- trigger source
  nb; ie _h4   -- MAC
  nb           -- trigger delay
  nb; ie _h5   -- bytes 18, 19
  nb           -- timestamp
  nb; ie _h6   -- last SCA cell
  nb; ie hreq  -- requested samples
  nb; ie h79   -- bit 79 of the sent mask
  have h79 : byteAt b 33 &&& 128 = 0 := Decidable.not_not.1 h79
  nb           -- the sent mask
  apply noPanic_need (sentIdx_ok b h79)
  nb; ie h79t  -- bit 79 of the threshold mask
  nb           -- the threshold mask
  apply noPanic_need (thrIdx_ok b (Decidable.not_not.1 h79t))
  nb; nb; nb; nb; nb  -- event counter, FIFO depth, descriptor depths, `slice[52..]`
  have hmul := sent_data_le b h79 (by omega)
  apply noPanic_need (by simp only [decide_eq_true_eq]; omega)
  ie hL
  have hL : bpc (requested b) * (chansOf (sentIdx b)).length + 4 = b.length - 52 :=
    Decidable.not_not.1 hL
  apply noPanic_checkBlocks _ _ _ _ _ (by rw [Nat.zero_add]; omega)
  apply noPanic_need (by simp only [decide_eq_true_eq]; omega)
  ie _h7
  exact noPanic_ok _

/-- C05 (channel lists): the sent and over-threshold lists are the set bits of the two masks in
ascending order (mask bit `i` is readout index `i + 1`), each mapped through
`ChannelId::try_from`. -/
theorem pwb_channels_sent (b : List UInt8) (p : PwbPacket) (h : decodePwb b = .ok p) :
    p.channelsSent.map some
        = ((List.range 79).filter (fun i => (leAt b 24 10).testBit i)).map
            (fun i => readoutToChannel (i + 1))
    ∧ p.channelsOverThreshold.map some
        = ((List.range 79).filter (fun i => (leAt b 34 10).testBit i)).map
            (fun i => readoutToChannel (i + 1))
    ∧ p.channelsSent.Nodup ∧ p.channelsOverThreshold.Nodup := by
  rw [pwb_fields b p h]
  exact ⟨chansOf_map_some _ (setBits_lt _ _), chansOf_map_some _ (setBits_lt _ _),
    chansOf_nodup _ (setBits_lt _ _) (setBits_nodup _ _),
    chansOf_nodup _ (setBits_lt _ _) (setBits_nodup _ _)⟩

/-- C05/C01 (readout mapping): `ChannelId::try_from(u16)` is defined exactly on 1..=79, never
underflows, is injective there, and is onto the 3 reset + 4 FPN + 72 pad channel ids. -/
theorem readout_bijective :
    (∀ i, (readoutToChannel i).isSome = true ↔ 1 ≤ i ∧ i ≤ 79)
    ∧ (∀ i, readoutUnderflows i = false)
    ∧ (∀ i j c, readoutToChannel i = some c → readoutToChannel j = some c → i = j)
    ∧ (∀ i c, readoutToChannel i = some c → c.Valid)
    ∧ (∀ c : ChannelId, c.Valid → ∃ i, 1 ≤ i ∧ i ≤ 79 ∧ readoutToChannel i = some c) :=
  ⟨readout_some_iff, readout_no_underflow, fun _ _ _ hi hj => readout_inj hi hj,
    fun _ _ h => (readout_eq_some h).2.2.1,
    fun c hc => ⟨channelToReadout c, (readout_right_inv c hc).1, (readout_right_inv c hc).2.1,
      (readout_right_inv c hc).2.2⟩⟩

/-- C05 (waveforms): the waveform of the `k`-th sent channel is exactly the `requested_samples`
little-endian `i16` samples of its block (which starts at `blockOff b k`, after the 4 header
bytes); a channel that was not sent has no waveform; `waveform_at` never panics. -/
theorem pwb_waveform (b : List UInt8) (p : PwbPacket) (h : decodePwb b = .ok p) :
    (∀ k (hk : k < p.channelsSent.length),
      waveformAt p p.channelsSent[k] = .ok (some ((List.range p.requestedSamples).map
        (fun j => toSigned 16 (leAt b (blockOff b k + 4 + 2 * j) 2)))))
    ∧ (∀ c, c ∉ p.channelsSent → waveformAt p c = .ok none) := by
  obtain ⟨w, rfl⟩ := (decodePwb_ok_iff b p).1 h
  constructor
  · intro k hk
    have hk' : k < (sentBits b).length := sent_length b ▸ hk
    have hpos : position? (fields b).channelsSent[k] (fields b).channelsSent = some k :=
      position?_getElem _ (chansOf_nodup _ (setBits_lt _ _) (setBits_nodup _ _)) k hk
    -- `waveform_at` counts in samples: block `k` is at sample `spc * k` of `data`, which is byte
    -- `52 + 2 * (spc * k) = blockOff b k` of the slice
    have hS := spc_eq (leAt b 22 2)
    have hm := block_le (B := spc (leAt b 22 2)) hk'
    have hL := w.length
    have hd := i16s_length (b.drop 52)
    have hoff : blockOff b k = 52 + 2 * (spc (leAt b 22 2) * k) := by rw [blockOff, blockBytes_mul]
    rw [blockBytes_mul] at hL
    rw [List.length_drop] at hd
    have hwin := i16s_window b 52 (spc (leAt b 22 2) * k + 2) (leAt b 22 2) (by omega)
    have e1 : (fields b).requestedSamples = leAt b 22 2 := rfl
    have e2 : (fields b).data = i16s (b.drop 52) := rfl
    unfold waveformAt
    rw [hpos, e1, e2, if_neg (by simp), Option.getD_some,
      need_eq (decide_eq_true (by omega)), need_eq (decide_eq_true (by omega)), hwin, hoff]
    simp only [Nat.mul_add, Nat.add_assoc]
  · intro c hc
    unfold waveformAt
    rw [(position?_eq_none_iff c _).2 hc]
    simp

/-- C01 (totality of `waveform_at`): on a decoded packet `waveform_at` never panics, for any
channel id. -/
theorem waveformAt_total (b : List UInt8) (p : PwbPacket) (h : decodePwb b = .ok p)
    (c : ChannelId) : NoPanic (waveformAt p c) := by
  obtain ⟨h1, h2⟩ := pwb_waveform b p h
  by_cases hc : c ∈ p.channelsSent
  · obtain ⟨k, hk, rfl⟩ := List.mem_iff_getElem.1 hc
    rw [h1 k hk]; exact noPanic_ok _
  · rw [h2 c hc]; exact noPanic_ok _

theorem boardOfMac_mac (b : List UInt8) (w : PwbWellFormed b) :
    ((boardOfMac (macOf b)).getD ("", [], 0)).2.1 = macOf b := by
  cases hm : boardOfMac (macOf b) with
  | none => exact absurd hm ((boardOfMac_ne_none (macOf b)).2 w.mac)
  | some t => exact (find?_key_eq_some hm).1

theorem encodeBlock_eq (b : List UInt8) (w : PwbWellFormed b) (h : decodePwb b = .ok (fields b))
    (k : Nat) (hk : k < (chansOf (sentBits b)).length) :
    encodeBlock (fields b) (chansOf (sentBits b))[k]
      = (b.drop (blockOff b k)).take (blockBytes (leAt b 22 2)) := by
  have hk' : k < (sentBits b).length := sent_length b ▸ hk
  have hw := (pwb_waveform b _ h).1 k hk
  have hc := (readout_eq_some (chansOf_getElem (sentBits b) (setBits_lt _ _) k hk hk')).2.2.2
  obtain ⟨b1, b2, b3⟩ := w.blocks k hk'
  have hL := w.length
  have hm := block_le (B := blockBytes (leAt b 22 2)) hk'
  -- offsets relative to the block
  simp only [Nat.add_assoc, ← leAt_drop b (blockOff b k)] at hw b2 b3
  rw [← Nat.add_zero (blockOff b k), ← leAt_drop] at b1
  have e1 : (fields b).requestedSamples = leAt b 22 2 := rfl
  have e2 : (fields b).channelsSent = chansOf (sentBits b) := rfl
  simp only [e1, e2] at hw
  unfold encodeBlock
  rw [hw, hc, e1, ← bpc_eq_blockBytes]
  exact block_bytes _ _ _ (by rw [List.length_drop, bpc_eq_blockBytes, blockOff]; omega) b1 b2 b3

/-- C05 (round trip): re-encoding the accessors of an accepted packet (header fields, the two
channel lists, `waveform_at` of every sent channel) in the documented layout reproduces the
input bytes exactly. -/
theorem pwb_roundtrip (b : List UInt8) (p : PwbPacket) (h : decodePwb b = .ok p) :
    encodePwb p = b := by
  obtain ⟨w, rfl⟩ := (decodePwb_ok_iff b p).1 h
  have hL := w.length
  have hblocks : (fields b).channelsSent.flatMap (encodeBlock (fields b))
      = (b.drop 52).take (blockBytes (leAt b 22 2) * (sentBits b).length) := by
    rw [← sent_length b]
    exact flatMap_blocks _ _ _ _ (fun k hk => List.drop_drop ▸ encodeBlock_eq b w h k hk)
  generalize hB : blockBytes (leAt b 22 2) * (sentBits b).length = B at *
  -- what the encoder writes that is not a `leBytes` of a field: single bytes and constants
  have p0 : ([2, UInt8.ofNat (65 + (fields b).afterId), UInt8.ofNat (fields b).compression,
      UInt8.ofNat (fields b).triggerSource] : List UInt8) = (b.drop 0).take 4 := by
    rw [← ofNat_bytes b 0 4 (by omega)]
    have e : 65 + (fields b).afterId = byteAt b 1 := by
      show 65 + (byteAt b 1 - 65) = byteAt b 1
      have := w.chip; omega
    have e0 : (2 : UInt8) = UInt8.ofNat (byteAt b 0) := by rw [w.version]; rfl
    rw [e, e0]; rfl
  have p1 : (fields b).mac.map UInt8.ofNat = (b.drop 4).take 6 := by
    show (((boardOfMac (macOf b)).getD ("", [], 0)).2.1).map UInt8.ofNat = _
    rw [boardOfMac_mac b w, ← ofNat_bytes b 4 6 (by omega)]; rfl
  have p4 : ([0, 0] : List UInt8) = leBytes (leAt b 18 2) 2 := by
    rw [(leAt18_zero b).2 w.zero1819]; rfl
  have p7 : maskOf (fields b).channelsSent = leAt b 24 10 :=
    maskOf_setBits _ (mask_lt_of_bit79 b 24 w.sentBit79)
  have p8 : maskOf (fields b).channelsOverThreshold = leAt b 34 10 :=
    maskOf_setBits _ (mask_lt_of_bit79 b 34 w.thrBit79)
  have p11 : ([UInt8.ofNat (fields b).eventDescriptorWriteDepth,
      UInt8.ofNat (fields b).eventDescriptorReadDepth] : List UInt8) = (b.drop 50).take 2 := by
    rw [← ofNat_bytes b 50 2 (by omega)]; rfl
  have pm : ([0xCC, 0xCC, 0xCC, 0xCC] : List UInt8) = leBytes (leAt b (52 + B) 4) 4 := by
    rw [show 52 + B = b.length - 4 by omega, w.marker]; rfl
  unfold encodePwb
  rw [p0, p1, p4, p7, p8, p11, hblocks, pm]
  -- every part is now a window of `b`; consecutive windows glue to a prefix
  simp (disch := omega) only [fields, leBytes_leAt, List.drop_zero, ← List.take_add, Nat.reduceAdd]
  exact List.take_of_length_le (by omega)

/-- C05 (injectivity): two accepted slices that decode to the same PWB packet are the same slice. -/
theorem pwb_decode_injective (b b' : List UInt8) (p : PwbPacket)
    (h : decodePwb b = .ok p) (h' : decodePwb b' = .ok p) : b = b' := by
  rw [← pwb_roundtrip b p h, ← pwb_roundtrip b' p h']

/-- Re-encoding an accepted packet gives an accepted slice with the same fields. -/
theorem pwb_encode_accepted (b : List UInt8) (p : PwbPacket) (h : decodePwb b = .ok p) :
    decodePwb (encodePwb p) = .ok p := by
  rw [pwb_roundtrip b p h]; exact h

/-! ### `suppression_baseline` -/

theorem tdiv64_bounds (s : Int) (h1 : -32768 * 64 ≤ s) (h2 : s ≤ 32767 * 64) :
    -32768 ≤ Int.tdiv s 64 ∧ Int.tdiv s 64 < 32768 := by
  by_cases hs : 0 ≤ s
  · rw [Int.tdiv_eq_ediv_of_nonneg hs]; omega
  · have : s = -(-s) := by omega
    rw [this, Int.neg_tdiv, Int.tdiv_eq_ediv_of_nonneg (by omega)]; omega

/-- C01 (totality of `suppression_baseline`): for every slice of `i16` samples the function
returns `Ok`/`Err`; the `i32` sum cannot overflow and the mean always fits an `i16`. -/
theorem baseline_total (w : List Int) (hw : ∀ x ∈ w, -32768 ≤ x ∧ x ≤ 32767) :
    NoPanic (suppressionBaseline w) := by
  have hb := sum_bounds (-32768) 32767 ((w.drop 4).take 64)
    (fun x hx => hw x (List.mem_of_mem_drop (List.mem_of_mem_take hx)))
  have hl : ((w.drop 4).take 64).length ≤ 64 := by rw [List.length_take]; omega
  have ht := tdiv64_bounds ((w.drop 4).take 64).sum (by omega) (by omega)
  unfold suppressionBaseline
  simp only [noPanic_ite_err_iff, noPanic_need_iff, noPanic_ok_iff, decide_eq_true_eq, and_true]
  omega

/-! ### Non-vacuity -/

/-- The documentation's example packet (tests.rs `ODD_PWB_V2_PACKET`): 3 channels, 5 samples. -/
def docPacket : List UInt8 :=
  [2, 68, 0, 0, 236, 40, 255, 135, 84, 2, 1, 0, 2, 0, 0, 0, 0, 0, 0, 0, 3, 0, 5, 0, 0, 0, 0, 0, 0,
   0, 0, 1, 1, 1, 1, 1, 1, 0, 0, 0, 0, 0, 0, 0, 4, 0, 0, 0, 5, 0, 6, 7, 57, 0, 5, 0, 1, 2, 3, 4,
   5, 6, 7, 8, 9, 10, 0, 0, 65, 0, 5, 0, 11, 12, 13, 14, 15, 16, 17, 18, 19, 20, 0, 0, 73, 0, 5,
   0, 21, 22, 23, 24, 25, 26, 27, 28, 29, 30, 0, 0, 204, 204, 204, 204]

set_option maxRecDepth 100000 in
example : (decodePwb docPacket).isOk = true := by decide +kernel
set_option maxRecDepth 100000 in
example : encodePwb (fields docPacket) = docPacket := by decide +kernel

end AlphaG.Pwb
