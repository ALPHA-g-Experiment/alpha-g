import AlphaG.Lemmas.Adc
/-
C02 — ADC (Alpha16) v3 packet decoding is exact; ADC part of C01 (totality).
The specification below is written from the documentation table of `AdcV3Packet` and the
property text, on *fields* (`/`, `%`, indices), not from the decoder's control flow or masks.
-/
namespace AlphaG.Adc
open AlphaG.Generated

/-! ### Specification: the documented fields -/

/-- "Last 4 bytes: data suppression info": a big-endian `u16` of flags followed by the
big-endian `i16` suppression baseline. -/
def footerF (b : List UInt8) : Nat := beAt b (b.length - 4) 2
/-- bits 0–11 of the footer word -/
def keepLastF (b : List UInt8) : Nat := footerF b % 2 ^ 12
/-- bit 12 of the footer word -/
def keepBitF (b : List UInt8) : Prop := (footerF b / 2 ^ 12) % 2 = 1
/-- bit 13 of the footer word (bits 14, 15 are unused) -/
def suppF (b : List UInt8) : Prop := (footerF b / 2 ^ 13) % 2 = 1
def baselineF (b : List UInt8) : Int := toSigned 16 (beAt b (b.length - 2) 2)
def requestedF (b : List UInt8) : Nat := beAt b 6 2
/-- number of waveform samples of a long packet: 32 header bytes, 4 footer bytes -/
def nSamplesF (b : List UInt8) : Nat := (b.length - 36) / 2
/-- sample `i`: big-endian two's-complement 16-bit value at bytes `32+2i`, `33+2i` -/
def sampleF (b : List UInt8) (i : Nat) : Int := toSigned 16 (beAt b (32 + 2 * i) 2)
/-- bytes 14–19 -/
def macF (b : List UInt8) : List Nat := (List.range 6).map (fun i => byteAt b (14 + i))
/-- the known MAC addresses (generated from `ALPHA16BOARDS`) -/
def knownMacs : List (List Nat) := alpha16Boards.map (·.2)

instance (b : List UInt8) : Decidable (keepBitF b) := by unfold keepBitF; infer_instance
instance (b : List UInt8) : Decidable (suppF b) := by unfold suppF; infer_instance

/-- The 16-byte form: only with suppression on, `keep_bit` clear and `keep_last` 0. -/
structure ShortForm (b : List UInt8) : Prop where
  len : b.length = 16
  supp : suppF b
  keepBit : ¬ keepBitF b
  keepLast : keepLastF b = 0

/-- The long form: 32 header bytes, at least 64 samples, 4 footer bytes. -/
structure LongForm (b : List UInt8) : Prop where
  len : 36 ≤ b.length
  zero12 : byteAt b 12 = 0
  zero13 : byteAt b 13 = 0
  mac : macF b ∈ knownMacs
  even : (b.length - 36) % 2 = 0
  minSamples : 64 ≤ nSamplesF b
  /-- footer baseline = floor (toward −∞) of the mean of the first 64 samples -/
  baseline : baselineF b = Int.fdiv ((List.range 64).map (sampleF b)).sum 64
  /-- the waveform is only included under suppression if the keep bit is set -/
  suppKeep : suppF b → keepBitF b
  /-- "if the `keep_bit` is not set, then `keep_last` is equal to 0" -/
  noKeep : ¬ keepBitF b → keepLastF b = 0
  /-- `keep_last = (index + 2) / 2 + 1` for the index of some sample after the baseline -/
  keep : keepBitF b → ∃ idx, 64 ≤ idx ∧ idx < nSamplesF b ∧ keepLastF b = (idx + 2) / 2 + 1
  req : 2 ≤ requestedF b
  countSupp : suppF b → nSamplesF b ≤ requestedF b - 2
  countNoSupp : ¬ suppF b → nSamplesF b = requestedF b - 2

/-- C02: the documented layout and consistency rules of an Alpha16 ADC v3 packet. -/
structure AdcWellFormed (b : List UInt8) : Prop where
  minLen : 16 ≤ b.length
  type1 : byteAt b 0 = 1
  version3 : byteAt b 1 = 3
  module : byteAt b 4 ≤ 7
  channel : byteAt b 5 ≤ 15 ∨ (128 ≤ byteAt b 5 ∧ byteAt b 5 ≤ 159)
  form : ShortForm b ∨ LongForm b

/-- The packet the documentation table denotes for a slice (big-endian fields; two's
complement for the trigger offset, the samples and the baseline). -/
def fields (b : List UInt8) : Packet :=
  { acceptedTrigger := beAt b 2 2
    moduleId := byteAt b 4
    channelId := if byteAt b 5 ≤ 15 then .a16 (byteAt b 5) else .a32 (byteAt b 5 - 128)
    requestedSamples := beAt b 6 2
    eventTimestamp := if b.length = 16 then beAt b 8 4 else beAt b 20 4 * 2 ^ 32 + beAt b 8 4
    boardId := if b.length = 16 then none
      else (alpha16Boards.filter (fun p => decide (p.2 = macF b))).head?
    triggerOffset := if b.length = 16 then none else some (toSigned 32 (beAt b 24 4))
    buildTimestamp := if b.length = 16 then none else some (beAt b 28 4)
    waveform := if b.length = 16 then [] else (List.range (nSamplesF b)).map (sampleF b)
    suppressionBaseline := baselineF b
    keepLast := keepLastF b
    keepBit := decide (keepBitF b)
    suppressionEnabled := decide (suppF b) }

/-- The input with the two unused footer bits (14, 15: the top bits of byte `len-4`) cleared. -/
def clearFooterBits (b : List UInt8) : List UInt8 :=
  b.take (b.length - 4) ++ [UInt8.ofNat (byteAt b (b.length - 4) % 64)] ++ b.drop (b.length - 3)

/-! ### Bridges between the code's masks/shifts/loops and the fields -/

theorem keepLast_eq (b : List UInt8) : keepLast b = keepLastF b := and_low (footer b) 12

theorem keepBit_eq (b : List UInt8) : keepBit b = decide (keepBitF b) := by
  unfold keepBit
  rw [shiftRight_and_one]
  rfl

theorem supp_eq (b : List UInt8) : supp b = decide (suppF b) := by
  unfold supp
  rw [shiftRight_and_one]
  rfl

theorem macAt_eq (b : List UInt8) : macAt b = macF b := rfl

theorem wave_length (b : List UInt8) : (wave b).length = nSamplesF b := by
  unfold wave nSamplesF
  rw [i16s_length, List.length_take, List.length_drop]
  congr 1; omega

theorem wave_eq (b : List UInt8) (h36 : 36 ≤ b.length) (heven : (b.length - 36) % 2 = 0) :
    wave b = (List.range (nSamplesF b)).map (sampleF b) := by
  unfold wave nSamplesF
  have e : b.length - 36 = 2 * ((b.length - 36) / 2) := by omega
  conv => lhs; rw [e]
  rw [i16s_take_eq_map _ _ (by rw [List.length_drop]; omega)]
  apply List.map_congr_left
  intro i _
  rw [sampleF, beAt_drop]

theorem wave_take64 (b : List UInt8) (h36 : 36 ≤ b.length) (heven : (b.length - 36) % 2 = 0)
    (h64 : 64 ≤ nSamplesF b) : (wave b).take 64 = (List.range 64).map (sampleF b) := by
  rw [wave_eq b h36 heven, ← List.map_take, List.take_range, Nat.min_eq_left h64]

theorem dataBaseline_eq (b : List UInt8) (h36 : 36 ≤ b.length)
    (heven : (b.length - 36) % 2 = 0) (h64 : 64 ≤ nSamplesF b) :
    dataBaseline b = Int.fdiv ((List.range 64).map (sampleF b)).sum 64 := by
  unfold dataBaseline
  rw [floorDiv64_eq_fdiv, wave_take64 b h36 heven h64]

theorem findBoard_isNone (m : List Nat) : (findBoard m).isNone = true ↔ m ∉ knownMacs :=
  Option.isNone_iff_eq_none.trans find?_key_eq_none

theorem findBoard_eq (m : List Nat) :
    findBoard m = (alpha16Boards.filter (fun p => decide (p.2 = m))).head? := by
  rw [List.head?_filter, findBoard]
  congr 1
  funext p
  rw [Bool.eq_iff_iff, beq_iff_eq, decide_eq_true_eq]

theorem findBoard_of_known {m : List Nat} (h : m ∈ knownMacs) :
    ∃ bd, findBoard m = some bd ∧ bd.2 = m ∧ bd ∈ alpha16Boards := by
  cases hfb : findBoard m with
  | none => exact absurd h ((findBoard_isNone m).1 (by rw [hfb]; rfl))
  | some bd => exact ⟨bd, rfl, find?_key_eq_some hfb⟩

theorem beAt12_zero (b : List UInt8) : beAt b 12 2 = 0 ↔ byteAt b 12 = 0 ∧ byteAt b 13 = 0 := by
  rw [beAt_two, show 12 + 1 = 13 from rfl]; omega

theorem wave_take64_bounds (b : List UInt8) :
    ((wave b).take 64).length ≤ 64 ∧ ∀ x ∈ (wave b).take 64, -32768 ≤ x ∧ x ≤ 32767 :=
  ⟨by rw [List.length_take]; omega, fun x hx => i16s_bounds _ x (List.mem_of_mem_take hx)⟩

/-- The `i32` accumulation of 64 `i16` samples never overflows. -/
theorem sumFits_wave (b : List UInt8) : sumFitsI32 0 ((wave b).take 64) = true := by
  have ⟨hl, hb⟩ := wave_take64_bounds b
  exact sumFitsI32_of_bounds _ 0 hb (by omega) (by omega)

/-- The recomputed baseline always fits an `i16` (the `try_into().unwrap()` of the error path). -/
theorem dataBaseline_bounds (b : List UInt8) :
    -32768 ≤ dataBaseline b ∧ dataBaseline b ≤ 32767 := by
  have ⟨hl, hb⟩ := wave_take64_bounds b
  unfold dataBaseline
  rw [floorDiv64_eq_fdiv]
  exact fdiv64_bounds _ hl hb

theorem chan_eq (b : List UInt8) (hch : byteAt b 5 ≤ 15 ∨ 128 ≤ byteAt b 5) :
    chan b = if byteAt b 5 ≤ 15 then .a16 (byteAt b 5) else .a32 (byteAt b 5 - 128) := by
  unfold chan
  by_cases h : byteAt b 5 ≤ 15
  · rw [if_pos (by omega), if_pos h]
  · rw [if_neg (by omega), if_neg h]

theorem shortPacket_eq_fields (b : List UInt8) (h : b.length = 16)
    (hch : byteAt b 5 ≤ 15 ∨ 128 ≤ byteAt b 5) : shortPacket b = fields b := by
  simp only [shortPacket, fields, h, if_true, chan_eq b hch, keepLast_eq, keepBit_eq, supp_eq]
  rfl

theorem longPacket_eq_fields (b : List UInt8) (h36 : 36 ≤ b.length)
    (heven : (b.length - 36) % 2 = 0) (hch : byteAt b 5 ≤ 15 ∨ 128 ≤ byteAt b 5) :
    longPacket b = fields b := by
  have hne : b.length ≠ 16 := by omega
  simp only [longPacket, fields, hne, if_false, chan_eq b hch, keepLast_eq, keepBit_eq, supp_eq,
    wave_eq b h36 heven, findBoard_eq, macAt_eq]
  rfl

/-- The decoder's ladder over `suppression_enabled` and `keep_bit` (as `simp` leaves it in
`decode_ok_iff`, the decoded packet `q` carried along) against the documented rules. The witness
for `keep` is the decoder's `last_index`; its two subtraction guards follow from `34 ≤ kl`. -/
theorem flagLadder_iff {s k q : Prop} {kl n req : Nat} (h64 : 64 ≤ n) :
    (s ∧ k ∧ 34 ≤ kl ∧ 1 ≤ kl ∧ 2 ≤ (kl - 1) * 2 ∧ (kl - 1) * 2 - 2 < n ∧ n ≤ req - 2 ∧ q ∨
      ¬s ∧ (k ∧ 34 ≤ kl ∧ 1 ≤ kl ∧ 2 ≤ (kl - 1) * 2 ∧ (kl - 1) * 2 - 2 < n ∧ n = req - 2 ∧ q ∨
        ¬k ∧ kl = 0 ∧ n = req - 2 ∧ q)) ↔
    ((s → k) ∧ (¬k → kl = 0) ∧ (k → ∃ idx, 64 ≤ idx ∧ idx < n ∧ kl = (idx + 2) / 2 + 1) ∧
      2 ≤ req ∧ (s → n ≤ req - 2) ∧ (¬s → n = req - 2)) ∧ q := by
  have hidx : (∃ idx, 64 ≤ idx ∧ idx < n ∧ kl = (idx + 2) / 2 + 1) ↔
      34 ≤ kl ∧ (kl - 1) * 2 - 2 < n :=
    ⟨fun ⟨idx, h1, h2, h3⟩ => by omega, fun h => ⟨(kl - 1) * 2 - 2, by omega, by omega, by omega⟩⟩
  rw [hidx]
  by_cases hs : s <;> by_cases hk : k <;>
    simp only [hs, hk, true_and, false_and, or_false, false_or, not_true_eq_false,
      not_false_eq_true, true_imp_iff, false_imp_iff, and_true, ← and_assoc] <;>
    exact and_congr_left' (by omega)

/-- Characterisation of acceptance: the guard chain of the model collapses to the documented
well-formedness predicate, and the decoded packet is the documented field tuple. -/
theorem decode_ok_iff (b : List UInt8) (p : Packet) :
    decode b = .ok p ↔ AdcWellFormed b ∧ p = fields b := by
  have hsum := sumFits_wave b
  unfold decode
  simp only [needBytes_eq_ok,
    need_eq_ok, ite_eq_ok, ok_eq_ok, decide_eq_true_eq, reduceCtorEq, and_false, false_or,
    ne_eq, Decidable.not_not, Nat.not_lt, gt_iff_lt, Nat.not_le,
    lastIndex, maxSamples, keepLast_eq, keepBit_eq, supp_eq, wave_length, findBoard_isNone,
    macAt_eq, beAt12_zero, hsum, true_and]
  -- header checks ∧ (short-form checks ∨ long-form checks), each form ending in `packet = p`
  constructor
  · -- Slots in the order of the model's lines; `-` is a slice bound (`needBytes`, `need`), implied
    -- by the length checks. Header: `h16` length, `t1` `v3` type and version bytes, `m` module,
    -- `c1` `c2` the two channel ranges. Long form: `h36`, bytes 12 and 13, the MAC, `heven`, `h64`
    -- (at least 64 samples), the baseline, the flag ladder.
    rintro ⟨h16, -, t1, -, v3, -, -, m, -, c1, -, c2, -, -, -, -, -, -, hform⟩
    have hc : byteAt b 5 ≤ 15 ∨ 128 ≤ byteAt b 5 ∧ byteAt b 5 ≤ 159 := by omega
    rcases hform with ⟨hl, hs, hk, hkl, rfl⟩ |
      ⟨-, h36, -, ⟨z12, z13⟩, -, hmac, -, -, -, -, heven, -, -, h64, -, hbase, hlad⟩
    · exact ⟨⟨h16, t1, v3, m, hc, .inl ⟨hl, hs, hk, hkl⟩⟩, shortPacket_eq_fields b hl (by omega)⟩
    · obtain ⟨⟨l1, l2, l3, l4, l5, l6⟩, rfl⟩ := (flagLadder_iff h64).1 hlad
      exact ⟨⟨h16, t1, v3, m, hc, .inr ⟨h36, z12, z13, hmac, heven, h64,
        hbase.symm.trans (dataBaseline_eq b h36 heven h64), l1, l2, l3, l4, l5, l6⟩⟩,
        longPacket_eq_fields b h36 heven (by omega)⟩
  · rintro ⟨wf, rfl⟩
    have := wf.minLen; have := wf.type1; have := wf.version3; have := wf.module
    have := wf.channel
    -- all conjuncts but the last are header checks and slice bounds: arithmetic
    and_intros
    all_goals try omega
    rcases wf.form with sf | lf
    · exact .inl ⟨sf.len, sf.supp, sf.keepBit, sf.keepLast, shortPacket_eq_fields b sf.len (by omega)⟩
    · have h36 := lf.len; have heven := lf.even; have h64 := lf.minSamples
      have := lf.zero12; have := lf.zero13
      refine .inr ?_
      -- what is not a bound: the MAC, the baseline, the flag ladder
      and_intros
      all_goals try omega
      · exact lf.mac
      · exact (dataBaseline_eq b h36 heven h64).trans lf.baseline.symm
      · exact (flagLadder_iff h64).2 ⟨⟨lf.suppKeep, lf.noKeep, lf.keep, lf.req, lf.countSupp,
          lf.countNoSupp⟩, longPacket_eq_fields b h36 heven (by omega)⟩

/-- C02 (acceptance): a slice is accepted iff it obeys the documented layout and rules. -/
theorem adc_accept_iff (b : List UInt8) : (∃ p, decode b = .ok p) ↔ AdcWellFormed b :=
  accept_iff_of_ok_iff (decode_ok_iff b)

/-- C02 (fields): every accessor of an accepted packet is the documented big-endian field
(`fields`: unsigned `beAt`, two's complement `toSigned` for trigger offset, samples, baseline;
optional accessors are `none` exactly in the 16-byte form). -/
theorem adc_fields (b : List UInt8) (p : Packet) (h : decode b = .ok p) : p = fields b :=
  ((decode_ok_iff b p).1 h).2

/-- C02 (fields, samples): sample `i` of the waveform is the two's-complement big-endian 16-bit
value at bytes `32+2i`, `33+2i`, and the waveform has `(len-36)/2` samples (none in the short
form). -/
theorem adc_waveform (b : List UInt8) (p : Packet) (h : decode b = .ok p) :
    p.waveform.length = (if b.length = 16 then 0 else (b.length - 36) / 2) ∧
    ∀ i (hi : i < p.waveform.length),
      p.waveform[i] = toSigned 16 (byteAt b (32 + 2 * i) * 256 + byteAt b (32 + 2 * i + 1)) := by
  rw [adc_fields b p h]
  unfold fields
  by_cases hl : b.length = 16
  · simp [hl]
  · simp only [hl, if_false, List.length_map, List.length_range, nSamplesF, true_and]
    intro i hi
    simp [sampleF, beAt_two]

/-- The AdcPacket wrapper decodes exactly as the V3 packet. -/
theorem adcPacket_eq (b : List UInt8) : decodeAdcPacket b = decode b := rfl

/-- C02 (baseline): the decoder's `num / 64`, `num % 64 < 0 → d - 1` computation (truncating
division) is the floor of the mean. -/
theorem adc_baseline_floor (num : Int) : floorDiv64 num = Int.fdiv num 64 :=
  floorDiv64_eq_fdiv num

/-- C02 (baseline): the footer baseline of an accepted long packet is the floor of the mean of its
first 64 samples. -/
theorem adc_baseline_accepted (b : List UInt8) (p : Packet) (h : decode b = .ok p)
    (hl : b.length ≠ 16) :
    p.suppressionBaseline = Int.fdiv ((p.waveform.take 64).sum) 64 := by
  obtain ⟨wf, rfl⟩ := (decode_ok_iff b p).1 h
  rcases wf.form with sf | lf
  · exact absurd sf.len hl
  · have : (fields b).waveform.take 64 = (List.range 64).map (sampleF b) := by
      simp only [fields, hl, if_false]
      rw [← List.map_take, List.take_range, Nat.min_eq_left lf.minSamples]
    rw [this]; exact lf.baseline

/-- C01/C02 (totality): no byte string makes the ADC decoder panic: every slice index,
`try_into().unwrap()`, `usize`/`u8` subtraction and the `i32` baseline sum is safe. -/
theorem adc_total (b : List UInt8) : NoPanic (decode b) := by
  have hs := sumFits_wave b
  have hd := dataBaseline_bounds b
  unfold decode
  -- each panic guard under the branch conditions before it; the derived quantities
  -- (`keepLast b`, `(wave b).length`, …) stay opaque, only their order relations matter
  simp only [noPanic_ite_iff, noPanic_needBytes_iff, noPanic_need_iff, noPanic_ok_iff,
    noPanic_err_iff, implies_true, and_true, true_and, decide_eq_true_eq, hs]
  omega

/-- C01 (totality): nor does the `AdcPacket` wrapper (`AdcPacket::try_from`). -/
theorem adcPacket_total (b : List UInt8) : NoPanic (decodeAdcPacket b) := adc_total b

/-- Intermediate `usize` values stay far below `2^64` for every slice a Rust program can hold
(`len ≤ isize::MAX`), so overflow-checked and unchecked builds compute the same thing: the
additions that only feed error payloads (`waveform_bytes + 36`, `+ 37`, `last_index + 1`) and
the `last_index` product. Subtractions are covered by `adc_total`. -/
theorem adc_no_overflow (b : List UInt8) (h : b.length < 2 ^ 63) :
    b.length - 36 + 37 < 2 ^ 64 ∧ (keepLast b - 1) * 2 < 2 ^ 64 ∧ lastIndex b + 1 < 2 ^ 64 := by
  have hk : keepLast b < 4096 := by rw [keepLast_eq]; unfold keepLastF; omega
  unfold lastIndex
  omega

/-! ### The id conversions: total (C01); they accept exactly the documented ranges and keep the
value -/

theorem moduleId_total (n : Nat) : NoPanic (moduleIdFromU8 n) :=
  noPanic_ite_err fun _ => noPanic_ok _
theorem adc16_total (n : Nat) : NoPanic (adc16FromU8 n) :=
  noPanic_ite_err fun _ => noPanic_ok _
theorem adc32_total (n : Nat) : NoPanic (adc32FromU8 n) :=
  noPanic_ite_err fun _ => noPanic_ok _
theorem boardFromMac_total (mac : List Nat) : NoPanic (boardFromMac mac) := by
  unfold boardFromMac; split
  · exact noPanic_ok _
  · exact noPanic_err _
theorem boardFromName_total (name : String) : NoPanic (boardFromName name) := by
  unfold boardFromName; split
  · exact noPanic_ok _
  · exact noPanic_err _

theorem moduleId_ok_iff (n m : Nat) : moduleIdFromU8 n = .ok m ↔ n ≤ 7 ∧ m = n := by
  unfold moduleIdFromU8; rw [ite_err_eq_ok, ok_eq_ok, gt_iff_lt, Nat.not_lt, eq_comm]
theorem adc16_ok_iff (n m : Nat) : adc16FromU8 n = .ok m ↔ n ≤ 15 ∧ m = n := by
  unfold adc16FromU8; rw [ite_err_eq_ok, ok_eq_ok, gt_iff_lt, Nat.not_lt, eq_comm]
theorem adc32_ok_iff (n m : Nat) : adc32FromU8 n = .ok m ↔ n ≤ 31 ∧ m = n := by
  unfold adc32FromU8; rw [ite_err_eq_ok, ok_eq_ok, gt_iff_lt, Nat.not_lt, eq_comm]
/-- A board is found from a MAC iff the MAC is in the table; the board found carries it. -/
theorem boardFromMac_ok_iff (mac : List Nat) :
    (∃ p, boardFromMac mac = .ok p) ↔ mac ∈ knownMacs := by
  have h := findBoard_isNone mac
  unfold boardFromMac
  cases hf : findBoard mac with
  | none => simp [hf] at h ⊢; exact h
  | some p => simp [hf] at h ⊢; exact h
theorem boardFromMac_mac (mac : List Nat) (p : String × List Nat)
    (h : boardFromMac mac = .ok p) : p.2 = mac ∧ p ∈ alpha16Boards := by
  unfold boardFromMac at h
  cases hf : findBoard mac with
  | none => simp [hf] at h
  | some q =>
    simp [hf] at h
    exact h ▸ find?_key_eq_some hf

/-! ### Round trip -/

theorem channelByte_chan (b : List UInt8) : channelByte (chan b) = byteAt b 5 := by
  unfold chan
  split
  · rfl
  · simp only [channelByte]; omega

theorem channelByte_valid {ch : ChannelId}
    (h : (∃ n, ch = .a16 n ∧ n ≤ 15) ∨ (∃ n, ch = .a32 n ∧ n ≤ 31)) :
    (channelByte ch ≤ 15 ∨ (128 ≤ channelByte ch ∧ channelByte ch ≤ 159)) ∧
    (if channelByte ch < 128 then .a16 (channelByte ch) else .a32 (channelByte ch - 128)) = ch := by
  rcases h with ⟨n, rfl, hn⟩ | ⟨n, rfl, hn⟩
  · exact ⟨.inl hn, if_pos (show n < 128 by omega)⟩
  · refine ⟨.inr ⟨Nat.le_add_right 128 n, show 128 + n ≤ 159 by omega⟩, ?_⟩
    rw [show channelByte (.a32 n) = 128 + n from rfl, if_neg (by omega), Nat.add_sub_cancel_left]

/-- The footer word rebuilt from `keep_last`, `keep_bit`, `suppression_enabled` is the wire
footer without its two unused top bits. -/
theorem footerWord_eq (b : List UInt8) (p : Packet) (h1 : p.keepLast = keepLast b)
    (h2 : p.keepBit = keepBit b) (h3 : p.suppressionEnabled = supp b) :
    footerWord p = footerF b % 2 ^ 14 := by
  unfold footerWord
  rw [h1, h2, h3, keepLast_eq, keepBit_eq, supp_eq]
  unfold keepLastF keepBitF suppF
  by_cases hk : footerF b / 2 ^ 12 % 2 = 1 <;> by_cases hs : footerF b / 2 ^ 13 % 2 = 1 <;>
    simp only [hk, hs, decide_true, decide_false, if_true, if_false, Bool.false_eq_true] <;> omega

theorem encodeFooter_eq (b : List UInt8) (p : Packet) (h4 : 4 ≤ b.length)
    (h1 : p.keepLast = keepLast b) (h2 : p.keepBit = keepBit b)
    (h3 : p.suppressionEnabled = supp b) (h5 : p.suppressionBaseline = suppBaseline b) :
    encodeFooter p = [UInt8.ofNat (byteAt b (b.length - 4) % 64)] ++ b.drop (b.length - 3) := by
  unfold encodeFooter
  rw [footerWord_eq b p h1 h2 h3, h5, suppBaseline, ofSigned_toSigned (bits := 16) (beAt_lt b _ 2),
    beBytes_beAt b (b.length - 2) 2 (by omega), beBytes_two]
  have hb1 := byteAt_lt b (b.length - 3)
  have hf : footerF b = byteAt b (b.length - 4) * 256 + byteAt b (b.length - 3) := by
    rw [footerF, beAt_two, show b.length - 4 + 1 = b.length - 3 by omega]
  have e0 : footerF b % 2 ^ 14 / 256 % 256 = byteAt b (b.length - 4) % 64 := by omega
  have e1 : footerF b % 2 ^ 14 % 256 = byteAt b (b.length - 3) := by omega
  -- the last three bytes of `b`: byte `len-3`, then the two-byte window at `len-2`
  rw [e0, e1, List.take_of_length_le (by rw [List.length_drop]; omega),
    ofNat_byteAt b _ (by omega), List.drop_eq_getElem_cons (show b.length - 3 < b.length by omega),
    show b.length - 3 + 1 = b.length - 2 by omega]
  rfl

theorem lit1 : (1 : UInt8) = UInt8.ofNat 1 := rfl
theorem lit3 : (3 : UInt8) = UInt8.ofNat 3 := rfl

theorem take_two (b : List UInt8) (h : 2 ≤ b.length) (t1 : byteAt b 0 = 1) (v3 : byteAt b 1 = 3) :
    ([1, 3] : List UInt8) = b.take 2 := by
  rw [show (2 : Nat) = 1 + 1 from rfl, List.take_add, ← List.drop_zero (l := b),
    ← byte_take b 0 (by omega), List.drop_zero, ← byte_take b 1 (by omega), t1, v3]
  rfl

theorem encode_short (b : List UInt8) (hl : b.length = 16) (t1 : byteAt b 0 = 1)
    (v3 : byteAt b 1 = 3) : encode (shortPacket b) = clearFooterBits b := by
  have hts : beAt b 8 4 % 4294967296 = beAt b 8 4 := Nat.mod_eq_of_lt (beAt_lt b 8 4)
  unfold clearFooterBits encode
  rw [encodeFooter_eq b (shortPacket b) (by omega) rfl rfl rfl rfl]
  simp only [shortPacket, hts, channelByte_chan b, take_two b (by omega) t1 v3,
    ← List.append_assoc]
  simp (disch := omega) only [beBytes_beAt, byte_take, ← List.take_add, Nat.reduceAdd]
  rw [show b.length - 4 = 12 by omega]

theorem mac_bytes (b : List UInt8) (h : 20 ≤ b.length) :
    (macAt b).map UInt8.ofNat = (b.drop 14).take 6 := by
  rw [macAt_eq, macF, List.map_map, ← ofNat_bytes b 14 6 (by omega)]
  rfl

theorem encode_long (b : List UInt8) (h36 : 36 ≤ b.length) (heven : (b.length - 36) % 2 = 0)
    (t1 : byteAt b 0 = 1) (v3 : byteAt b 1 = 3) (z : beAt b 12 2 = 0)
    (hmac : macF b ∈ knownMacs) :
    encode (longPacket b) = clearFooterBits b := by
  have h8 := beAt_lt b 8 4
  have hts : (beAt b 20 4 * 4294967296 + beAt b 8 4) % 4294967296 = beAt b 8 4 := by omega
  have hts2 : (beAt b 20 4 * 4294967296 + beAt b 8 4) / 4294967296 = beAt b 20 4 := by omega
  obtain ⟨board, hfb, hb2, -⟩ := findBoard_of_known hmac
  have hw : encodeSamples (wave b) = (b.drop 32).take (b.length - 36) :=
    encodeSamples_i16s _ (by rw [List.length_take, List.length_drop]; omega)
  have e12 : beBytes 0 2 = (b.drop 12).take 2 := z ▸ beBytes_beAt b 12 2 (by omega)
  unfold clearFooterBits encode
  rw [encodeFooter_eq b (longPacket b) (by omega) rfl rfl rfl rfl]
  dsimp only [longPacket]
  rw [macAt_eq, hfb]
  dsimp only
  -- every piece is a window of `b`; consecutive windows glue to a prefix of `b`
  rw [hts, hts2, channelByte_chan b, Option.getD_some, Option.getD_some, hb2, ← macAt_eq,
    mac_bytes b (by omega), ofSigned_toSigned (bits := 32) (beAt_lt b 24 4), hw, e12,
    take_two b (by omega) t1 v3]
  simp only [← List.append_assoc]
  simp (disch := omega) only [beBytes_beAt, byte_take, ← List.take_add, Nat.reduceAdd]
  rw [show 32 + (b.length - 36) = b.length - 4 by omega]

/-- C02 (round trip): re-encoding the accessor values of an accepted packet reproduces the
input byte for byte, apart from the two unused footer bits 14 and 15. -/
theorem adc_roundtrip (b : List UInt8) (p : Packet) (h : decode b = .ok p) :
    encode p = clearFooterBits b := by
  obtain ⟨wf, rfl⟩ := (decode_ok_iff b p).1 h
  have hch : byteAt b 5 ≤ 15 ∨ 128 ≤ byteAt b 5 := by have := wf.channel; omega
  rcases wf.form with sf | lf
  · rw [← shortPacket_eq_fields b sf.len hch]
    exact encode_short b sf.len wf.type1 wf.version3
  · rw [← longPacket_eq_fields b lf.len lf.even hch]
    exact encode_long b lf.len lf.even wf.type1 wf.version3
      ((beAt12_zero b).2 ⟨lf.zero12, lf.zero13⟩) lf.mac

/-- When the unused bits are clear the round trip is exact. -/
theorem adc_roundtrip_exact (b : List UInt8) (p : Packet) (h : decode b = .ok p)
    (hu : byteAt b (b.length - 4) < 64) : encode p = b := by
  have h16 : 16 ≤ b.length := ((decode_ok_iff b p).1 h).1.minLen
  rw [adc_roundtrip b p h, clearFooterBits, Nat.mod_eq_of_lt hu,
    byte_take b (b.length - 4) (by omega), ← List.take_add,
    show b.length - 4 + 1 = b.length - 3 by omega, List.take_append_drop]

/-- Two byte strings that decode to the same packet differ at most in the two unused bits:
decoding loses no other information. -/
theorem adc_decode_injective (b c : List UInt8) (p : Packet) (hb : decode b = .ok p)
    (hc : decode c = .ok p) : clearFooterBits b = clearFooterBits c := by
  rw [← adc_roundtrip b p hb, ← adc_roundtrip c p hc]

/-! ### Non-vacuity -/

/-- The 16-byte packet of the crate's documentation examples (footer `0xE000`: suppression on,
both unused bits set). -/
def exampleShort : List UInt8 := [1, 3, 0, 4, 5, 6, 2, 187, 0, 0, 0, 7, 224, 0, 0, 0]

/-- 64 samples (ten of them -3, so the sum is negative and the floor is -1), suppression off. -/
def exampleLong : List UInt8 :=
  [1, 3, 0, 4, 5, 6, 0, 66, 0, 0, 0, 7, 0, 0, 216, 128, 57, 104, 55, 76, 0, 0, 0, 1, 255, 255, 255, 254, 0, 0, 0, 9, 255, 253, 255, 253, 255, 253, 255, 253, 255, 253, 255, 253, 255, 253, 255, 253, 255, 253, 255, 253, 0, 0, 0, 0, 0, 0, 0, 0, 0, 0, 0, 0, 0, 0, 0, 0, 0, 0, 0, 0, 0, 0, 0, 0, 0, 0, 0, 0, 0, 0, 0, 0, 0, 0, 0, 0, 0, 0, 0, 0, 0, 0, 0, 0, 0, 0, 0, 0, 0, 0, 0, 0, 0, 0, 0, 0, 0, 0, 0, 0, 0, 0, 0, 0, 0, 0, 0, 0, 0, 0, 0, 0, 0, 0, 0, 0, 0, 0, 0, 0, 0, 0, 0, 0, 0, 0, 0, 0, 0, 0, 0, 0, 0, 0, 0, 0, 0, 0, 0, 0, 0, 0, 0, 0, 0, 0, 0, 0, 0, 0, 255, 255]

/-- 66 samples, all but one (sample 5 is 100) at the `i16` extremes, suppression on, keep bit set, `keep_last` 34 (index 64),
both unused footer bits set, requested 70. -/
def exampleLongSupp : List UInt8 :=
  [1, 3, 0, 4, 5, 133, 0, 70, 0, 0, 0, 7, 0, 0, 216, 128, 57, 104, 55, 76, 0, 0, 0, 1, 255, 255, 255, 254, 0, 0, 0, 9, 127, 255, 128, 0, 127, 255, 128, 0, 127, 255, 0, 100, 127, 255, 128, 0, 127, 255, 128, 0, 127, 255, 128, 0, 127, 255, 128, 0, 127, 255, 128, 0, 127, 255, 128, 0, 127, 255, 128, 0, 127, 255, 128, 0, 127, 255, 128, 0, 127, 255, 128, 0, 127, 255, 128, 0, 127, 255, 128, 0, 127, 255, 128, 0, 127, 255, 128, 0, 127, 255, 128, 0, 127, 255, 128, 0, 127, 255, 128, 0, 127, 255, 128, 0, 127, 255, 128, 0, 127, 255, 128, 0, 127, 255, 128, 0, 127, 255, 128, 0, 127, 255, 128, 0, 127, 255, 128, 0, 127, 255, 128, 0, 127, 255, 128, 0, 127, 255, 128, 0, 127, 255, 128, 0, 127, 255, 128, 0, 127, 255, 128, 0, 240, 34, 2, 1]

theorem exampleShort_isOk : (decode exampleShort).isOk = true := by decide +kernel
theorem exampleLong_isOk : (decode exampleLong).isOk = true := by decide +kernel
theorem exampleLongSupp_ok : decode exampleLongSupp = .ok (fields exampleLongSupp) := by
  decide +kernel

example : (decode exampleShort).isOk = true := exampleShort_isOk
example : (decode exampleLong).isOk = true := exampleLong_isOk
example : decode exampleLongSupp = .ok (fields exampleLongSupp) := exampleLongSupp_ok
example : AdcWellFormed exampleShort := (adc_accept_iff _).1 (Outcome.isOk_iff.1 exampleShort_isOk)
example : AdcWellFormed exampleLong := (adc_accept_iff _).1 (Outcome.isOk_iff.1 exampleLong_isOk)
example : (fields exampleLong).suppressionBaseline = -1 := by decide +kernel
example : (fields exampleLongSupp).keepLast = 34 ∧ (fields exampleLongSupp).waveform.length = 66
    ∧ (fields exampleLongSupp).suppressionBaseline = 513 := by decide +kernel
theorem exampleLongSupp_encode :
    encode (fields exampleLongSupp) = clearFooterBits exampleLongSupp := by decide +kernel

example : encode (fields exampleLongSupp) = clearFooterBits exampleLongSupp := exampleLongSupp_encode
example : encode (fields exampleLongSupp) ≠ exampleLongSupp := by
  rw [exampleLongSupp_encode]; decide +kernel
-- flipping one sample bit, one MAC bit or the requested count breaks acceptance
example : decode (exampleLong.set 32 (0x7F : UInt8)) = .err .baselineMismatch := by decide +kernel
example : decode (exampleLong.set 19 (0x4d : UInt8)) = .err .unknownMac := by decide +kernel
example : decode (exampleLong.set 7 (67 : UInt8)) = .err .badNumberOfSamples := by decide +kernel
example : decode (exampleLong.set 7 (1 : UInt8) |>.set 6 0) = .err .badNumberOfSamples := by
  decide +kernel

end AlphaG.Adc
