import AlphaG.Lemmas.EventLoops
import AlphaG.Lemmas.EventGroups
/-
C09 — every main event yields a result: assembling never crashes.

Proved here (full strength, for every carrier, every `into_values()` order, every run number
and every list of banks):
* `buildEvent_total`   `try_from_banks` never panics. Sites covered: the bank-name parser's slices
                       and unwraps (C08 `bankName_total`), the three decoders (C02/C03/C06 totality),
                       `Chunk::board_id()` /
                       `after_id()`, reassembly (C04 `reassemble_total` on decoded chunks),
                       `waveform_at(..).unwrap()` for sent channels (C05 `pwb_waveform`), the maps
                       (C08 bijections: no `unreachable!`, no table index out of range), slot indices
                       `< 256`, `< 32`, `< 576`, `i32::from(v) - i32::from(baseline)`, the calibration
                       dispatch.
* `timestamp_total`.

Inventory of the panic sites of `avalanches()` / `vertex()` (physics/src/lib.rs 397–449):
  1. `wire_indices.clone().collect::<Vec<_>>().try_into::<[usize; 8]>().unwrap()`
       — `avalanches_wire_range` below: `pad_column_to_wires c` is a range of exactly 8 indices.
  2. `wire_inputs[wire_indices].try_into::<&[_; 8]>().unwrap()` and the slice itself
       — `avalanches_wire_range`: `first + 8 ≤ 256` for every column `< 32`.
  3. `pad_columns` only holds `wire_to_pad_column(i)` with `i < 256`, hence `< 32`
       — `avalanches_column_lt` (so `self.pad_signals[column]` is in range).
  4. `wire_inputs[i] = input` with `i` from `wire_range_deconvolution` (indices of the range,
     taken modulo 256) — C13 `Lemmas/RangesAvalanches.lean` (`assignments_fst_occupied`).
  5. inside `match_column_inputs`: `TpcWirePosition::try_from(i).unwrap()` (`i < 256` by 2.),
     `TpcPadRow::try_from(row - 1)` — the code uses `filter_map(..ok())`, no unwrap —,
     `max().unwrap()` on the 8 lengths (non-empty array: cannot fail),
     `partial_cmp().unwrap()` in the two amplitude sorts (amplitudes passed `> 0.0`, hence are
     not NaN) — argued in `Model/Matching.lean`, sampled by the C13 and C09 harnesses; not
     restated here.
  6. `f64` code below (`wire_range_deconvolution` Cholesky, `pad_deconvolution`,
     `cluster_spacepoints`, track and vertex fitting with `argmin`/`faer`, their
     `assert!(!x.is_nan())` tripwires): NaN-freedom of `f64` optimisers is **not provable here**
     (Lean's `Float` is opaque to the kernel and no IEEE model is available); it is *sampled* by
     harness/src/c09.rs on the implementation (dev and release), see also C14.
-/
namespace AlphaG.C09
open AlphaG AlphaG.Event AlphaG.Generated AlphaG.Maps

variable {α : Type} (ops : Ops α)

theorem wireStore_noPanic (run board ch : Nat) (wf : List Int) (st : St α) (hb : board < 8)
    (hc : ch < 32) (hw : ∀ v ∈ wf, -32768 ≤ v ∧ v ≤ 32767) :
    NoPanic (wireStore ops run board ch wf st) := by
  unfold wireStore
  split
  · rename_i s h; exact absurd h (wire_total run board ch hb hc s)
  · exact noPanic_err _
  · rename_i w h
    refine noPanic_need (decide_eq_true (wirePosition_ok_lt run board ch w hb hc h))
      (noPanic_ite_err fun _ => ?_)
    split
    · rename_i s h; exact absurd h (wireBaseline_noPanic run w s)
    · exact noPanic_err _
    · rename_i bl hbl
      split
      · rename_i s h; exact absurd h (wireGainBits_noPanic run w s)
      · exact noPanic_err _
      · split
        · rename_i s h; exact absurd h (wireDelay_noPanic run s)
        · exact noPanic_err _
        · exact noPanic_need (subFitsI32_of_range bl _ (wireBaseline_range run w bl hbl)
            fun v hv => hw v (List.mem_of_mem_drop hv)) (noPanic_ok _)

theorem wireBank_noPanic (run : Nat) (nm : BankName.Name) (data : List UInt8) (st : St α) :
    NoPanic (wireBank ops run nm data st) := by
  unfold wireBank
  split
  · rename_i s h; exact absurd h (Adc.adcPacket_total data s)
  · exact noPanic_err _
  · rename_i p h
    obtain ⟨f2, f3⟩ := adc_facts data p h
    unfold wirePacket
    refine noPanic_ite_err fun _ => ?_
    split
    · exact noPanic_err _
    · rename_i ch hch
      refine noPanic_ite_err fun _ => ?_
      split
      · exact noPanic_ok _
      · exact wireStore_noPanic ops run _ ch _ _ (a16Row_lt _) (f2 ch hch) f3

theorem padwingBank_noPanic (nm : BankName.Name) (data : List UInt8) (st : St α) :
    NoPanic (padwingBank nm data st) := by
  unfold padwingBank
  split
  · rename_i s h; exact absurd h (Chunk.chunk_total data s)
  · exact noPanic_err _
  · rename_i c h
    obtain ⟨hb, ha⟩ := chunk_facts data c h
    exact noPanic_need hb (noPanic_need ha (noPanic_ite_err fun _ => noPanic_ok _))

theorem trgBank_noPanic (data : List UInt8) (st : St α) : NoPanic (trgBank data st) := by
  unfold trgBank
  split
  · rename_i s h; exact absurd h (Trg.trg_total data s)
  · exact noPanic_err _
  · exact noPanic_ite_err fun _ => noPanic_ok _

theorem bankStep_noPanic (run : Nat) (b : Bank) (st : St α) : NoPanic (bankStep ops run b st) := by
  unfold bankStep
  split
  · rename_i s h; exact absurd h (BankName.bankName_total b.1 s)
  · exact noPanic_err _
  · split
    · exact wireBank_noPanic ops run _ b.2 st
    · exact padwingBank_noPanic _ b.2 st
    · exact trgBank_noPanic b.2 st
    · exact noPanic_ok _

theorem padStore_noPanic (run board chip ch : Nat) (wf : List Int)
    (pad : Array (Option (List α))) (hb : board < padwingBoards.length) (hchip : chip < 4)
    (h1 : 1 ≤ ch) (h2 : ch ≤ 72) (hw : ∀ v ∈ wf, -32768 ≤ v ∧ v ≤ 32767) :
    NoPanic (padStore ops run board chip ch wf pad) := by
  unfold padStore
  split
  · rename_i s h; exact absurd h (padPosition_noPanic run board chip ch hb hchip h1 h2 s)
  · exact noPanic_err _
  · rename_i pos h
    obtain ⟨hc, hr⟩ := padPosition_ok_lt run board chip ch pos hb hchip h1 h2 h
    refine noPanic_need (decide_eq_true hc) (noPanic_need (decide_eq_true hr)
      (noPanic_ite_err fun _ => ?_))
    split
    · rename_i s h; exact absurd h (padBaseline_noPanic run pos.1 pos.2 s)
    · exact noPanic_err _
    · rename_i bl hbl
      split
      · rename_i s h; exact absurd h (padGainBits_noPanic run pos.1 pos.2 s)
      · exact noPanic_err _
      · split
        · rename_i s h; exact absurd h (padDelay_noPanic run s)
        · exact noPanic_err _
        · exact noPanic_need (subFitsI32_of_range bl _ (padBaseline_range run _ _ bl hbl)
            fun v hv => hw v (List.mem_of_mem_drop hv)) (noPanic_ok _)

theorem chanStep_noPanic (run board chip : Nat) (b : List UInt8) (p : Pwb.PwbPacket)
    (hp : Pwb.decodePwb b = .ok p) (hb : board < padwingBoards.length) (hchip : chip < 4)
    (c : Pwb.ChannelId) (hc : c ∈ p.channelsSent) (pad : Array (Option (List α))) :
    NoPanic (chanStep ops run board chip p pad c) := by
  obtain ⟨_, f2, f3⟩ := pwb_facts b p hp
  cases c with
  | pad n =>
    obtain ⟨wf, hwf, hr⟩ := f3 _ hc
    simp only [chanStep, hwf]
    exact padStore_noPanic ops run board chip n wf pad hb hchip (f2 n hc).1 (f2 n hc).2 hr
  | reset k => exact noPanic_ok _
  | fpn k => exact noPanic_ok _

theorem groupStep_noPanic (run : Nat) (g : Group) (hv : ∀ c ∈ g.2, c.Valid)
    (pad : Array (Option (List α))) : NoPanic (groupStep ops run g pad) := by
  unfold groupStep
  split
  · rename_i s h; exact absurd h (Pwb.reassemble_total g.2 hv s)
  · exact noPanic_err _
  · rename_i p h
    refine noPanic_ite_err fun _ => noPanic_ite_err fun _ => ?_
    rw [channelLoop_eq]
    exact Outcome.foldlM_noPanic (fun c hc pad => chanStep_noPanic ops run _ _ _ p
      (Pwb.reassemble_ok_eq_direct g.2 p h) (keyRow_lt _) (keyChip_lt _) c hc pad) pad

/-- **C09.** `MainEvent::try_from_banks` never panics: for every carrier, every order in which
`HashMap::into_values()` may yield the chunk groups, every run number and every list of
(bank name, data) pairs. -/
theorem buildEvent_total (order : GroupOrder) (run : Nat) (banks : List Bank) :
    NoPanic (buildEventWith ops order run banks) := by
  unfold buildEventWith
  split
  · rename_i s h
    rw [bankLoop_eq] at h
    exact absurd h (Outcome.foldlM_noPanic (fun b _ st => bankStep_noPanic ops run b st) _ s)
  · exact noPanic_err _
  · rename_i st h
    -- the groups after the first loop are those of the specification: decoded chunks
    have inv := bankLoop_loop1 ops h
    unfold finish
    split
    · rename_i s h2
      rw [groupLoop_eq] at h2
      refine absurd h2 (Outcome.foldlM_noPanic (fun g hg pad => groupStep_noPanic ops run g
        (groupsOf_valid banks g ?_) pad) _ s)
      exact inv.groups ▸ (order.perm st.groups).mem_iff.1 hg
    · exact noPanic_err _
    · split
      · exact noPanic_err _
      · exact noPanic_ok _

/-- **C09.** `MainEvent::timestamp` returns normally. -/
theorem timestamp_total (ev : Event α) : NoPanic (timestamp ev) := noPanic_ok _

/-- Sites 1 and 2: for every pad column, `pad_column_to_wires` is a range of exactly 8 wire
indices that ends inside the 256 wires (`first ≤ 248`), so both `try_into::<[_; 8]>().unwrap()`
and the slice `wire_inputs[first..first + 8]` are in order. -/
theorem avalanches_wire_range : ∀ c, c < 32 →
    (padColumnToWires c).2 = (padColumnToWires c).1 + 8 ∧ (padColumnToWires c).1 ≤ 248 := by
  intro c hc
  obtain ⟨h1, h2, _⟩ := C08.padColumnToWires_fibre c hc
  omega

/-- Site 3: every column inserted into `pad_columns` is `< 32`. -/
theorem avalanches_column_lt : ∀ w, w < 256 → wireToPadColumn w < 32 :=
  fun w hw => (C08.wire_in_column w hw).1

end AlphaG.C09
