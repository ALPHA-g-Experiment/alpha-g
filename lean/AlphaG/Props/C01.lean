import AlphaG.Model.EventChunks
import AlphaG.Props.C02
import AlphaG.Props.C03
import AlphaG.Props.C04Wire
import AlphaG.Props.C05
import AlphaG.Props.C06
import AlphaG.Props.C07
/-
C01 — raw-data decoders are total: any bytes give Ok or a typed Err, never a panic.

Every decoder model is written panic-aware (each slice index, `try_into().unwrap()`, `usize`
subtraction, `unwrap()` is a guard that yields `.panic site`); the theorems below state that
`.panic` is unreachable for **every** input. This file only collects the per-decoder totality
theorems (proved in the decoders' own property files) and adds the composition for PWB packets
from chunk byte strings. The bank-name parsers are in Props/C08.lean (`bankName_total`,
`chronoboxBankName_total`), the wire lookup in Props/C08Maps.lean (`wire_total`), the calibration
and pad lookups in Lemmas/Event.lean (`*_noPanic`).
-/
namespace AlphaG.C01
open AlphaG

/-- ADC packets: `AdcV3Packet::try_from` / `AdcPacket::try_from`, all byte strings. -/
theorem adc_total (b : List UInt8) : NoPanic (Adc.decode b) ∧ NoPanic (Adc.decodeAdcPacket b) :=
  ⟨Adc.adc_total b, Adc.adcPacket_total b⟩

/-- ADC: the `usize` values that only feed error payloads stay below 2^64 (so builds with and
without overflow checks compute the same thing). -/
theorem adc_no_overflow (b : List UInt8) (h : b.length < 2 ^ 63) :
    b.length - 36 + 37 < 2 ^ 64 ∧ (Adc.keepLast b - 1) * 2 < 2 ^ 64 ∧ Adc.lastIndex b + 1 < 2 ^ 64 :=
  Adc.adc_no_overflow b h

/-- Alpha16 id conversions. -/
theorem alpha16_ids_total (n : Nat) (mac : List Nat) (name : String) :
    NoPanic (Adc.moduleIdFromU8 n) ∧ NoPanic (Adc.adc16FromU8 n) ∧ NoPanic (Adc.adc32FromU8 n)
      ∧ NoPanic (Adc.boardFromMac mac) ∧ NoPanic (Adc.boardFromName name) :=
  ⟨Adc.moduleId_total n, Adc.adc16_total n, Adc.adc32_total n, Adc.boardFromMac_total mac,
    Adc.boardFromName_total name⟩

/-- PWB chunks: `Chunk::try_from`, all byte strings. -/
theorem chunk_total (b : List UInt8) : NoPanic (Chunk.decodeChunk b) := Chunk.chunk_total b

/-- PWB chunks: the unwrapping accessors of a decoded chunk. -/
theorem chunk_accessors_total (b : List UInt8) (c : Chunk.Chunk) (h : Chunk.decodeChunk b = .ok c) :
    NoPanic (Chunk.boardId c) ∧ NoPanic (Chunk.afterId c) ∧ NoPanic (Chunk.headerCrc32c c)
      ∧ NoPanic (Chunk.payloadCrc32c c) :=
  Chunk.chunk_accessors_total b c h

/-- PWB packets from a payload (`PwbV2Packet::try_from(&[u8])`), all byte strings. -/
theorem pwb_total (b : List UInt8) : NoPanic (Pwb.decodePwb b) := Pwb.pwb_total b

/-- `waveform_at` on a decoded packet, any channel id. (`suppression_baseline`: `Pwb.baseline_total`
in Props/C05.lean.) -/
theorem waveformAt_total (b : List UInt8) (p : Pwb.PwbPacket) (h : Pwb.decodePwb b = .ok p)
    (c : Pwb.ChannelId) : NoPanic (Pwb.waveformAt p c) :=
  Pwb.waveformAt_total b p h c

/-- A decoded chunk satisfies the invariant the reassembly relies on (its `board_id()` /
`after_id()` unwraps, the `u16` payload length). -/
theorem decoded_chunk_valid (b : List UInt8) (c : Chunk.Chunk) (h : Chunk.decodeChunk b = .ok c) :
    (toChunkV c).Valid :=
  toChunkV_valid c (Chunk.chunk_decoded_wf b c h)

theorem decodeAll_spec (bs : List (List UInt8)) :
    NoPanic (decodeAll bs) ∧ ∀ cs, decodeAll bs = .ok cs → ∀ c ∈ cs, c.Valid := by
  induction bs with
  | nil => exact ⟨noPanic_ok _, fun cs h c hc => by cases h; cases hc⟩
  | cons b bs ih =>
    unfold decodeAll
    cases hd : Chunk.decodeChunk b with
    | panic s => exact absurd hd (Chunk.chunk_total b s)
    | err e => exact ⟨noPanic_err _, fun cs h => by cases h⟩
    | ok c =>
      cases hr : decodeAll bs with
      | panic s => exact absurd hr (ih.1 s)
      | err e => exact ⟨noPanic_err _, fun cs h => by cases h⟩
      | ok cs0 =>
        refine ⟨noPanic_ok _, fun cs h c' hc' => ?_⟩
        cases h
        rcases List.mem_cons.1 hc' with rfl | hm
        · exact decoded_chunk_valid b c hd
        · exact ih.2 cs0 hr c' hm

/-- PWB packets from a list of chunks: for **any** list of byte strings, decoding each with
`Chunk::try_from` and reassembling with `PwbPacket::try_from(Vec<Chunk>)` never panics. -/
theorem pwbFromChunkBytes_total (banks : List (List UInt8)) : NoPanic (pwbFromChunkBytes banks) := by
  unfold pwbFromChunkBytes
  have hs := decodeAll_spec banks
  cases hd : decodeAll banks with
  | panic s => exact absurd hd (hs.1 s)
  | err e => exact noPanic_err _
  | ok cs =>
    have ht := Pwb.reassemble_total cs (hs.2 cs hd)
    simp only []
    cases hr : Pwb.reassemble cs with
    | panic s => exact absurd hr (ht s)
    | err e => exact noPanic_err _
    | ok p => exact noPanic_ok _

/-- TRG packets, all byte strings. -/
theorem trg_total (b : List UInt8) : NoPanic (Trg.decode b) := Trg.trg_total b

/-- Chronobox FIFO: the winnow transcription never panics (its `unwrap()` and winnow's own
infinite-loop assertions are unreachable); every entry of `parse` (which the transcription computes:
`Chronobox.parse_total`) accounts for four input bytes. -/
theorem cbfifo_total (i : List UInt8) :
    NoPanic (Chronobox.Raw.chronoboxFifo i)
      ∧ 4 * (Chronobox.parse i).1.length + (Chronobox.parse i).2.length ≤ i.length :=
  ⟨(Chronobox.parse_total i).2, (Chronobox.parse_progress i).1⟩

/-- Chronobox id conversions. -/
theorem chronobox_ids_total (n : Nat) (name : String) :
    NoPanic (Chronobox.channelId n) ∧ NoPanic (Chronobox.boardId name) :=
  ⟨Chronobox.channelId_total n, Chronobox.boardId_total name⟩

/-- Non-vacuity: the documented TRG packet decodes, so the decoders are not trivially erroring. -/
example : (Trg.decode Trg.examplePacket).isOk = true := by rw [Trg.examplePacket_ok]; rfl

end AlphaG.C01
