import AlphaG.Props.C15
import AlphaG.Model.Hough
import AlphaG.Driver.C15b
/-
C15b — the concrete ingredients of `cluster_spacepoints`: `get_bins`, `SpacePoint::distance`,
`SpacePoint ==` (Model/Hough.lean), and the C15 theorems instantiated to them.

What is said about `get_bins` itself (it returns, which bins it lists, none twice, `theta <
theta_bins`) holds for **every** carrier and every operation table, in fact for every sequence of
rho bins (`getBinsSeq`): no law of arithmetic is used. The remaining hypotheses of C15 need
exactly this of the carrier: `BeqPER o` (`==` symmetric and transitive), `EqCompat o E` for
"`get_bins` respects `==`" (a relation `E` containing `==` that the operations respect — **only**
in the numerator for `/`, which is what IEEE offers), and `SubSqSymm o` (`(a-b)² = (b-a)²`, true
in every commutative ring) for the symmetry of `distance`. A fixed-point integer carrier with
signed zeros satisfies all of it. The renaming of bin codes that the driver uses (`rankFn`) is
injective, as `ctxOf_good` asks.

What is *not* proved: that `Float` satisfies `EqCompat`/`SubSqSymm`/`BeqPER` (`Float` is opaque
in Lean). Analysis for IEEE binary64, `E a b := same bits ∨ both zero ∨ both NaN`: every field
holds (`x / ±0` is the one operation that does not respect `==`, and `get_bins` divides only by
`r * r`, which is `+0` for both zeros, and by the constant `delta_rho`); `SubSqSymm` holds bit for
bit except for the payload of a NaN result, and `near` is symmetric without exception because
`NaN <= max` is false both ways. The harness samples all of this on `f64` and on Lean's `Float`
(`eqlaws`, `dist`, `bins-twins`).
-/
namespace AlphaG.Hough
open AlphaG AlphaG.Cluster

theorem nodup_map_of_injOn {β γ : Type} {f : β → γ} {l : List β} (hl : l.Nodup)
    (hf : ∀ a ∈ l, ∀ b ∈ l, f a = f b → a = b) : (l.map f).Nodup :=
  List.pairwise_map.2 (hl.imp_of_mem fun ha hb hne heq => hne (hf _ ha _ hb heq))

theorem mem_rangeIncl {lo hi x : Int} : x ∈ rangeIncl lo hi ↔ lo ≤ x ∧ x ≤ hi := by
  simp only [rangeIncl, List.mem_map, List.mem_range]
  exact ⟨fun ⟨i, hi', e⟩ => by omega, fun h => ⟨(x - lo).toNat, by omega, by omega⟩⟩

theorem rangeIncl_nodup (lo hi : Int) : (rangeIncl lo hi).Nodup :=
  nodup_map_of_injOn List.nodup_range fun a _ b _ h => by omega

theorem pushBins_ok (t : Nat) (l : List Int) (h : ∀ b ∈ l, 0 ≤ b) :
    pushBins t l = .ok (l.map (fun b => (t, b.toNat))) := by
  induction l with
  | nil => rfl
  | cons b bs ih =>
    rw [List.forall_mem_cons] at h
    rw [pushBins, if_neg (Int.not_lt.2 h.1), ih h.2]; rfl

/-- The votes of one theta step as a list (what `stepBins` returns). -/
def stepList (t : Nat) (prev cur : Int) : List (Nat × Nat) :=
  if 0 ≤ cur ∨ 0 ≤ prev then
    (rangeIncl (max (min prev cur) 0) (max prev cur)).map (fun b => (t, b.toNat))
  else []

theorem stepBins_eq (t : Nat) (prev cur : Int) : stepBins t prev cur = .ok (stepList t prev cur) := by
  unfold stepBins stepList
  by_cases h : 0 ≤ cur ∨ 0 ≤ prev
  · rw [if_pos h, if_pos (by simpa [Int.not_lt] using h)]
    exact pushBins_ok _ _ fun b hb => by have := (mem_rangeIncl.1 hb).1; omega
  · rw [if_neg h, if_neg (by simpa [Int.not_lt] using h)]

theorem mem_stepList {t : Nat} {prev cur : Int} {x : Nat × Nat} :
    x ∈ stepList t prev cur ↔
      x.1 = t ∧ (0 ≤ cur ∨ 0 ≤ prev) ∧ min prev cur ≤ (x.2 : Int) ∧ (x.2 : Int) ≤ max prev cur := by
  unfold stepList
  split
  · next h =>
    simp only [List.mem_map, mem_rangeIncl, h, true_and]
    constructor
    · rintro ⟨b, hb, rfl⟩
      exact ⟨rfl, by omega, by omega⟩
    · rintro ⟨rfl, h2, h3⟩
      exact ⟨(x.2 : Int), by omega, rfl⟩
  · next h => simp [h]

theorem stepList_nodup (t : Nat) (prev cur : Int) : (stepList t prev cur).Nodup := by
  unfold stepList
  split
  · refine nodup_map_of_injOn (rangeIncl_nodup _ _) fun a ha b hb h => ?_
    have := (mem_rangeIncl.1 ha).1
    have := (mem_rangeIncl.1 hb).1
    have := (Prod.mk.inj h).2
    omega
  · exact List.nodup_nil

/-- All votes of the iterations `theta_bin = k, k+1, …, k+n-1`. -/
def loopList (rb : Nat → Int) : Nat → Nat → Int → List (Nat × Nat)
  | 0, _, _ => []
  | n + 1, k, prev => stepList (k - 1) prev (rb k) ++ loopList rb n (k + 1) (rb k)

theorem loopBins_eq (rb : Nat → Int) (n k : Nat) (prev : Int) :
    loopBins rb n k prev = .ok (loopList rb n k prev) := by
  induction n generalizing k prev with
  | zero => rfl
  | succ n ih => simp only [loopBins, loopList, stepBins_eq, ih]

/-- Closed form: with the rho bins of all iterations and the initial `prev_rho_bin` read off one
sequence `s` (`prev = s m`, iteration `theta_bin = j` computes `s j`), iterations
`m+1, …, m+n` list `stepList t (s t) (s (t+1))` for `t = m, …, m+n-1`. -/
theorem loopList_eq {rb s : Nat → Int} {n m : Nat} {prev : Int}
    (hprev : prev = s m) (hrb : ∀ j, m < j → rb j = s j) :
    loopList rb n (m + 1) prev = (List.range' m n).flatMap fun t => stepList t (s t) (s (t + 1)) := by
  induction n generalizing m prev with
  | zero => rfl
  | succ n ih =>
    rw [loopList, List.range'_succ, List.flatMap_cons, Nat.add_sub_cancel, hprev,
      hrb _ (Nat.lt_succ_self m), ih rfl fun j hj => hrb j (by omega)]

theorem mem_loopList {rb s : Nat → Int} {n m : Nat} {prev : Int}
    (hprev : prev = s m) (hrb : ∀ j, m < j → rb j = s j) {t b : Nat} :
    (t, b) ∈ loopList rb n (m + 1) prev ↔
      (m ≤ t ∧ t < m + n) ∧ (0 ≤ s (t + 1) ∨ 0 ≤ s t) ∧
      min (s t) (s (t + 1)) ≤ (b : Int) ∧ (b : Int) ≤ max (s t) (s (t + 1)) := by
  rw [loopList_eq hprev hrb, List.mem_flatMap]
  simp only [mem_stepList, List.mem_range'_1]
  exact ⟨fun ⟨_, h1, h2, h3⟩ => h2 ▸ ⟨h1, h3⟩, fun ⟨h1, h3⟩ => ⟨t, h1, rfl, h3⟩⟩

theorem loopList_nodup (rb : Nat → Int) (n m : Nat) (prev : Int) :
    (loopList rb n (m + 1) prev).Nodup := by
  rw [loopList_eq (s := fun j => if j = m then prev else rb j) (if_pos rfl).symm
    fun j hj => (if_neg (Nat.ne_of_gt hj)).symm]
  refine List.pairwise_flatMap.2 ⟨fun t _ => stepList_nodup _ _ _,
    (List.pairwise_lt_range' (s := m) (n := n)).imp fun hlt x hx y hy e => ?_⟩
  have h1 := (mem_stepList.1 hx).1
  have h2 := (mem_stepList.1 hy).1
  rw [e] at h1; omega

/-- For every rho-bin sequence `get_bins` returns: the `bin.try_into().unwrap()` cannot fire because
the range starts at `min_bin.max(0)`. -/
theorem getBinsSeq_ok (rb0 : Int) (rb : Nat → Int) (thetaBins : Nat) :
    getBinsSeq rb0 rb thetaBins = .ok (loopList rb thetaBins 1 rb0) :=
  loopBins_eq rb thetaBins 1 rb0

/-- The bins of a point as a list (no `Outcome`). -/
def binsList {α : Type} (o : Ops α) (p : Point α) (rhoBins thetaBins : Nat) : List (Nat × Nat) :=
  loopList (rhoBinAt o p rhoBins thetaBins) thetaBins 1 (rhoBin0 o p rhoBins)

variable {α : Type} (o : Ops α)

/-- For every carrier, every operation table, every point
(NaN, infinities included — they only influence the value of `floorI32`) and all bin counts,
`get_bins` returns; the `try_into().unwrap()` guard is unreachable. -/
theorem getBins_no_panic (p : Point α) (rhoBins thetaBins : Nat) :
    getBins o p rhoBins thetaBins = .ok (binsList o p rhoBins thetaBins) :=
  getBinsSeq_ok _ _ _

/-- Specification of the votes: the bin `(t, b)` is listed iff `t < theta_bins`, not both the
rho bin of this step (`theta_bin = t+1`) and the previous one (`theta_bin = t`, or the one from
`u` alone for `t = 0`) are negative, and `b` lies between the two (so `b ≥ 0` only clips). -/
theorem getBins_mem_iff (p : Point α) (rhoBins thetaBins : Nat) (t b : Nat) :
    (t, b) ∈ binsList o p rhoBins thetaBins ↔
      t < thetaBins ∧
      (0 ≤ rhoBinAt o p rhoBins thetaBins (t + 1) ∨
        0 ≤ (if t = 0 then rhoBin0 o p rhoBins else rhoBinAt o p rhoBins thetaBins t)) ∧
      min (if t = 0 then rhoBin0 o p rhoBins else rhoBinAt o p rhoBins thetaBins t)
          (rhoBinAt o p rhoBins thetaBins (t + 1)) ≤ (b : Int) ∧
      (b : Int) ≤ max (if t = 0 then rhoBin0 o p rhoBins else rhoBinAt o p rhoBins thetaBins t)
          (rhoBinAt o p rhoBins thetaBins (t + 1)) := by
  rw [binsList, mem_loopList (m := 0)
    (s := fun t => if t = 0 then rhoBin0 o p rhoBins else rhoBinAt o p rhoBins thetaBins t)
    (if_pos rfl).symm fun j hj => (if_neg (Nat.ne_of_gt hj)).symm]
  simp only [Nat.succ_ne_zero, if_false, Nat.zero_le, true_and, Nat.zero_add]

/-- The bins of one call contain no pair twice — for any carrier and
any operations (the theta index is distinct per iteration, each iteration contributes one
range). -/
theorem getBins_nodup (p : Point α) (rhoBins thetaBins : Nat) :
    (binsList o p rhoBins thetaBins).Nodup :=
  loopList_nodup _ _ 0 _

/-- Every listed theta index is `< theta_bins`. -/
theorem getBins_bounds (p : Point α) (rhoBins thetaBins : Nat) :
    ∀ x ∈ binsList o p rhoBins thetaBins, x.1 < thetaBins :=
  fun x hx => ((getBins_mem_iff o p rhoBins thetaBins x.1 x.2).1 hx).1

/-- The same three facts on the `Outcome` returned by the model of `get_bins`. -/
theorem getBins_spec (p : Point α) (rhoBins thetaBins : Nat) :
    ∃ l, getBins o p rhoBins thetaBins = .ok l ∧ l.Nodup ∧ ∀ x ∈ l, x.1 < thetaBins :=
  ⟨_, getBins_no_panic o p rhoBins thetaBins, getBins_nodup o p rhoBins thetaBins,
    getBins_bounds o p rhoBins thetaBins⟩

/-- What `get_bins` needs of the carrier to respect `==`: a relation `E` ("equal, or two
zeros"), containing `==`, respected by `*`, `+`, `sin`, `cos`, by `/` **in the numerator only**
and made invisible by `floor() as i32`; and `a == b → a * a = b * b` (the denominator `r²`).
`1 / +0 ≠ 1 / -0`: an IEEE carrier does not satisfy congruence of `/` in the denominator, and
it is not required. -/
structure EqCompat (o : Ops α) (E : α → α → Prop) : Prop where
  refl : ∀ a, E a a
  of_beq : ∀ a b, o.beq a b = true → E a b
  mul_self : ∀ a b, o.beq a b = true → o.mul a a = o.mul b b
  mul : ∀ a a' b b', E a a' → E b b' → E (o.mul a b) (o.mul a' b')
  add : ∀ a a' b b', E a a' → E b b' → E (o.add a b) (o.add a' b')
  div_left : ∀ a a' c, E a a' → E (o.div a c) (o.div a' c)
  sin : ∀ a a', E a a' → E (o.sin a) (o.sin a')
  cos : ∀ a a', E a a' → E (o.cos a) (o.cos a')
  floor : ∀ a a', E a a' → o.floorI32 a = o.floorI32 a'

theorem pointBeq_iff (p q : Point α) :
    pointBeq o p q = true ↔ o.beq p.r q.r = true ∧ o.beq p.phi q.phi = true ∧ o.beq p.z q.z = true := by
  simp [pointBeq, Bool.and_eq_true, and_assoc]

/-- Under `EqCompat`, `p == q → get_bins(p) = get_bins(q)`
(same bins in the same order; `z` plays no role). -/
theorem getBins_respects_eq {E : α → α → Prop} (L : EqCompat o E) (p q : Point α)
    (h : pointBeq o p q = true) (rhoBins thetaBins : Nat) :
    getBins o p rhoBins thetaBins = getBins o q rhoBins thetaBins := by
  obtain ⟨hr, hphi, _⟩ := (pointBeq_iff o p q).1 h
  have er := L.of_beq _ _ hr
  have ephi := L.of_beq _ _ hphi
  have hrr := L.mul_self _ _ hr
  have hu : E (uv o p).1 (uv o q).1 := by
    simp only [uv, px, hrr]
    exact L.div_left _ _ _ (L.mul _ _ _ _ er (L.cos _ _ ephi))
  have hv : E (uv o p).2 (uv o q).2 := by
    simp only [uv, py, hrr]
    exact L.div_left _ _ _ (L.mul _ _ _ _ er (L.sin _ _ ephi))
  have h0 : rhoBin0 o p rhoBins = rhoBin0 o q rhoBins := by
    unfold rhoBin0
    exact L.floor _ _ (L.div_left _ _ _ hu)
  have hk : rhoBinAt o p rhoBins thetaBins = rhoBinAt o q rhoBins thetaBins := by
    funext k
    unfold rhoBinAt
    exact L.floor _ _ (L.div_left _ _ _
      (L.add _ _ _ _ (L.mul _ _ _ _ hu (L.refl _)) (L.mul _ _ _ _ hv (L.refl _))))
  unfold getBins
  rw [h0, hk]

def SubSqSymm (o : Ops α) : Prop :=
  ∀ a b, o.mul (o.sub a b) (o.sub a b) = o.mul (o.sub b a) (o.sub b a)

/-- Only the symmetry of `(a-b)²` is used (the three squares are added
in the same order on both sides, so commutativity of `+` is not needed). -/
theorem dist3_symm (hs : SubSqSymm o) (a b : α × α × α) : dist3 o a b = dist3 o b a := by
  unfold dist3 sq
  rw [hs a.1 b.1, hs a.2.1 b.2.1, hs a.2.2 b.2.2]

theorem distance_symm (hs : SubSqSymm o) (p q : Point α) : distance o p q = distance o q p :=
  dist3_symm o hs _ _

theorem near_symm (hs : SubSqSymm o) (maxd : α) (p q : Point α) :
    near o maxd p q = near o maxd q p := by
  unfold near
  rw [distance_symm o hs]

/-- `SubSqSymm` holds whenever `-` and `*` are those of a commutative ring (core Lean's
`Lean.Grind.CommRing`; `Int`, `Rat`, Mathlib's `ℝ` are instances). -/
theorem subSqSymm_of_commRing [Lean.Grind.CommRing α] (o : Ops α)
    (hsub : ∀ a b, o.sub a b = a - b) (hmul : ∀ a b, o.mul a b = a * b) : SubSqSymm o := by
  intro a b
  rw [hmul, hmul, hsub, hsub]
  grind

/-- `==` is symmetric and transitive (a partial equivalence: reflexivity fails at NaN and is
asked of the input points only). -/
structure BeqPER (o : Ops α) : Prop where
  symm : ∀ a b, o.beq a b = true → o.beq b a = true
  trans : ∀ a b c, o.beq a b = true → o.beq b c = true → o.beq a c = true

theorem pointBeq_symm (B : BeqPER o) (p q : Point α) (h : pointBeq o p q = true) :
    pointBeq o q p = true := by
  rw [pointBeq_iff] at h ⊢
  exact ⟨B.symm _ _ h.1, B.symm _ _ h.2.1, B.symm _ _ h.2.2⟩

theorem pointBeq_trans (B : BeqPER o) (p q s : Point α) (h1 : pointBeq o p q = true)
    (h2 : pointBeq o q s = true) : pointBeq o p s = true := by
  rw [pointBeq_iff] at h1 h2 ⊢
  exact ⟨B.trans _ _ _ h1.1 h2.1, B.trans _ _ _ h1.2.1 h2.2.1, B.trans _ _ _ h1.2.2 h2.2.2⟩

theorem binCode_inj {tb : Nat} {a b : Nat × Nat} (ha : a.1 < tb) (hb : b.1 < tb)
    (h : binCode tb a = binCode tb b) : a = b := by
  unfold binCode at h
  have h1 : a.1 = b.1 := by
    have := congrArg (· % tb) h
    simpa only [Nat.add_mul_mod_self_left, Nat.mod_eq_of_lt ha, Nat.mod_eq_of_lt hb] using this
  exact Prod.ext h1 (Nat.eq_of_mul_eq_mul_left (by omega) (by omega : tb * a.2 = tb * b.2))

theorem binCodes_eq (prm : Params α) (p : Point α) :
    binCodes o prm p = (binsList o p prm.rhoBins prm.thetaBins).map (binCode prm.thetaBins) := by
  unfold binCodes
  rw [getBins_no_panic]

theorem binCodes_nodup (prm : Params α) (p : Point α) : (binCodes o prm p).Nodup := by
  rw [binCodes_eq]
  apply nodup_map_of_injOn (getBins_nodup o p _ _)
  intro a ha b hb h
  exact binCode_inj (getBins_bounds o p _ _ a ha) (getBins_bounds o p _ _ b hb) h

theorem binCodes_respects_eq {E : α → α → Prop} (L : EqCompat o E) (prm : Params α)
    (p q : Point α) (h : pointBeq o p q = true) : binCodes o prm p = binCodes o prm q := by
  unfold binCodes
  rw [getBins_respects_eq o L p q h]

section ctx
variable (ren : Nat → Nat) (prm : Params α) (pts : Array (Point α))

theorem ctxOf_eq (i j : Nat) :
    (ctxOf o ren prm pts).eq i j =
      match pts[i]?, pts[j]? with
      | some p, some q => pointBeq o p q
      | _, _ => i == j := rfl

theorem ctxOf_bins (i : Nat) :
    (ctxOf o ren prm pts).bins i =
      match pts[i]? with
      | some p => (binCodes o prm p).map ren
      | none => [] := by
  simp only [ctxOf, Array.getD_eq_getD_getElem?, Array.getElem?_map]
  cases pts[i]? <;> rfl

theorem ctxOf_near (i j : Nat) :
    (ctxOf o ren prm pts).near i j =
      match pts[i]?, pts[j]? with
      | some p, some q => near o prm.maxDistance p q
      | _, _ => false := by
  simp only [ctxOf, Array.getElem?_map]
  cases pts[i]? <;> cases pts[j]? <;> rfl

/-- For in-range indices the context is the real thing: `==`, the (renamed) codes of
`get_bins`, `distance <= max_distance`. -/
theorem ctxOf_spec (i j : Nat) (hi : i < pts.size) (hj : j < pts.size) :
    (ctxOf o ren prm pts).eq i j = pointBeq o pts[i] pts[j] ∧
    (ctxOf o ren prm pts).bins i = (binCodes o prm pts[i]).map ren ∧
    (ctxOf o ren prm pts).near i j = near o prm.maxDistance pts[i] pts[j] := by
  rw [ctxOf_eq, ctxOf_bins, ctxOf_near]
  simp [hi, hj]

variable {o ren prm pts} in
/-- `==` of the context, read from its first argument: an in-range index is `==` exactly to the
in-range indices of `==` points, an out-of-range index only to itself. -/
theorem ctxOf_eq_some {a : Nat} {p : Point α} (ha : pts[a]? = some p) (b : Nat) :
    (ctxOf o ren prm pts).eq a b = true ↔ ∃ q, pts[b]? = some q ∧ pointBeq o p q = true := by
  rw [ctxOf_eq, ha]
  cases hb : pts[b]? with
  | some q => simp
  | none =>
    simp only [beq_iff_eq, reduceCtorEq, false_and, exists_false, iff_false]
    intro h; rw [← h, ha] at hb; cases hb

variable {o ren prm pts} in
theorem ctxOf_eq_none {a : Nat} (ha : pts[a]? = none) (b : Nat) :
    (ctxOf o ren prm pts).eq a b = true ↔ a = b := by
  rw [ctxOf_eq, ha]
  exact beq_iff_eq

/-- The hypotheses of C15 (`Ctx.Good`) for the concrete context. Of the five, `bins_nodup`
needs nothing of the carrier; `bins_eq` needs `EqCompat`; the three `==` laws need `BeqPER`
and reflexivity on the input points (no NaN coordinate). -/
theorem ctxOf_good {E : α → α → Prop} (B : BeqPER o) (L : EqCompat o E)
    (hrefl : ∀ p ∈ pts, pointBeq o p p = true)
    (hren : ∀ p ∈ pts, ∀ c ∈ binCodes o prm p, ∀ c' ∈ binCodes o prm p, ren c = ren c' → c = c') :
    (ctxOf o ren prm pts).Good where
  eq_refl := by
    intro a
    cases ha : pts[a]? with
    | none => exact (ctxOf_eq_none ha a).2 rfl
    | some p =>
      exact (ctxOf_eq_some ha a).2 ⟨p, ha, hrefl p (Array.mem_of_getElem? ha)⟩
  eq_symm := by
    intro a b h
    cases ha : pts[a]? with
    | none => have e := (ctxOf_eq_none ha b).1 h; subst e; exact h
    | some p =>
      obtain ⟨q, hb, hpq⟩ := (ctxOf_eq_some ha b).1 h
      exact (ctxOf_eq_some hb a).2 ⟨p, ha, pointBeq_symm o B p q hpq⟩
  eq_trans := by
    intro a b c h1 h2
    cases ha : pts[a]? with
    | none => rw [(ctxOf_eq_none ha b).1 h1]; exact h2
    | some p =>
      obtain ⟨q, hb, hpq⟩ := (ctxOf_eq_some ha b).1 h1
      obtain ⟨r, hc, hqr⟩ := (ctxOf_eq_some hb c).1 h2
      exact (ctxOf_eq_some ha c).2 ⟨r, hc, pointBeq_trans o B p q r hpq hqr⟩
  bins_nodup := by
    intro a
    rw [ctxOf_bins]
    cases h : pts[a]? with
    | none => exact List.nodup_nil
    | some p =>
      exact nodup_map_of_injOn (binCodes_nodup o prm p) (hren p (Array.mem_of_getElem? h))
  bins_eq := by
    intro a b h k
    cases ha : pts[a]? with
    | none => rw [(ctxOf_eq_none ha b).1 h]
    | some p =>
      obtain ⟨q, hb, hpq⟩ := (ctxOf_eq_some ha b).1 h
      rw [ctxOf_bins, ctxOf_bins, ha, hb]
      show k ∈ (binCodes o prm p).map ren ↔ k ∈ (binCodes o prm q).map ren
      rw [binCodes_respects_eq o L prm p q hpq]

/-- The `get_bins` guard of `clusterX` never fires: `clusterX` *is* the abstract clustering on
the concrete context. -/
theorem clusterX_eq (min : Nat) :
    clusterX o ren prm min pts = cluster (ctxOf o ren prm pts) min (List.range pts.size) := by
  unfold clusterX
  rw [if_neg]
  simp [getBins_no_panic, Outcome.isOk]

/-- Symmetry of the adjacency, the only thing `cluster_connected` needs of `distance`. -/
def NearSymm (o : Ops α) (maxd : α) : Prop :=
  ∀ a b : α × α × α, o.le (dist3 o a b) maxd = true → o.le (dist3 o b a) maxd = true

theorem nearSymm_of_subSqSymm (hs : SubSqSymm o) (maxd : α) : NearSymm o maxd := by
  intro a b h
  rw [dist3_symm o hs b a]
  exact h

theorem ctxOf_near_symm (hn : NearSymm o prm.maxDistance) (a b : Nat)
    (h : (ctxOf o ren prm pts).near a b = true) : (ctxOf o ren prm pts).near b a = true := by
  rw [ctxOf_near] at h ⊢
  split at h
  · next p q ha hb => rw [ha, hb]; exact hn _ _ h
  · cases h

variable {E : α → α → Prop} (B : BeqPER o) (L : EqCompat o E)
  (hrefl : ∀ p ∈ pts, pointBeq o p p = true)
  (hren : ∀ p ∈ pts, ∀ c ∈ binCodes o prm p, ∀ c' ∈ binCodes o prm p, ren c = ren c' → c = c')
  (min : Nat) (hmin : 1 ≤ min)
include B L hrefl hren hmin

/-- C15 `cluster_total` for the concrete functions: on NaN-free input, with `min ≥ 1`,
`cluster_spacepoints` returns: no `unwrap` of `get_bins`, `remove_unchecked` or the remainder
loop fires and the loops terminate. -/
theorem cluster_total_concrete : ∃ r, clusterX o ren prm min pts = .ok r := by
  rw [clusterX_eq]
  exact cluster_total (ctxOf_good o ren prm pts B L hrefl hren) min hmin _

/-- C15 `cluster_partition`: every `==`-class of input points occurs in
`clusters.flatten ++ remainder` exactly as often as in the input. -/
theorem cluster_partition_concrete (r : Result) (h : clusterX o ren prm min pts = .ok r) :
    ∀ x, cnt (ctxOf o ren prm pts) x (r.clusters.flatten ++ r.remainder) =
      cnt (ctxOf o ren prm pts) x (List.range pts.size) := by
  rw [clusterX_eq] at h
  exact cluster_partition (ctxOf_good o ren prm pts B L hrefl hren) min hmin _ r h

/-- The same as a permutation of the input indices up to pointwise `==`. -/
theorem cluster_partition_perm_concrete (r : Result) (h : clusterX o ren prm min pts = .ok r) :
    ∃ l, l.Perm (r.clusters.flatten ++ r.remainder) ∧
      EqList (ctxOf o ren prm pts) l (List.range pts.size) := by
  rw [clusterX_eq] at h
  exact cluster_partition_perm (ctxOf_good o ren prm pts B L hrefl hren) min hmin _ r h

/-- C15 `cluster_min_size` for the concrete functions. -/
theorem cluster_min_size_concrete (r : Result) (h : clusterX o ren prm min pts = .ok r) :
    ∀ c ∈ r.clusters, min ≤ c.length := by
  rw [clusterX_eq] at h
  exact cluster_min_size (ctxOf_good o ren prm pts B L hrefl hren) min hmin _ r h

/-- C15 `cluster_connected`: any two points of a cluster are linked by a chain of
`distance <= max_distance` steps inside the cluster. -/
theorem cluster_connected_concrete (hn : NearSymm o prm.maxDistance) (r : Result)
    (h : clusterX o ren prm min pts = .ok r) :
    ∀ c ∈ r.clusters, ∀ p ∈ c, ∀ q ∈ c, Reach (ctxOf o ren prm pts).near c p q := by
  rw [clusterX_eq] at h
  exact cluster_connected (ctxOf_good o ren prm pts B L hrefl hren)
    (ctxOf_near_symm o ren prm pts hn) min hmin _ r h

/-- C15 `clusters_disjoint`: the clusters together use no `==`-class more often than the
input holds it. -/
theorem clusters_disjoint_concrete (r : Result) (h : clusterX o ren prm min pts = .ok r) :
    ∀ x, cnt (ctxOf o ren prm pts) x r.clusters.flatten ≤
      cnt (ctxOf o ren prm pts) x (List.range pts.size) := by
  rw [clusterX_eq] at h
  exact clusters_disjoint (ctxOf_good o ren prm pts B L hrefl hren) min hmin _ r h

end ctx

/-! ### Non-vacuity: a carrier with signed zeros satisfying every hypothesis

Fixed-point integers (scale 1000) tagged with a sign bit that matters only at zero, as in IEEE:
`==` ignores the tag of a zero, `x + ±0 = x`, products and quotients xor the tags, `sin ±0 = ±0`,
`cos ±0 = 1`. Angles: a full turn is 4000, `cos` is a triangle wave. (`sqrt` is the identity and
`/ 0 = 0`: a toy, but one in which two `==` points with different representations exist.) -/

def toyCos (t : Int) : Int := if t % 4000 ≤ 2000 then 1000 - t % 4000 else t % 4000 - 3000

abbrev SZ := Int × Bool

def szOps : Ops SZ where
  add := fun a b => (a.1 + b.1,
    if a.1 = 0 then (if b.1 = 0 then a.2 && b.2 else b.2) else if b.1 = 0 then a.2 else a.2 && b.2)
  sub := fun a b => (a.1 - b.1, a.2 && !b.2)
  mul := fun a b => (a.1 * b.1 / 1000, xor a.2 b.2)
  div := fun a b => (a.1 * 1000 / b.1, xor a.2 b.2)
  sqrt := id
  sin := fun a => (toyCos (a.1 - 1000), a.2)
  cos := fun a => (toyCos a.1, false)
  ofU32 := fun n => ((n : Int) * 1000, false)
  floorI32 := fun a => a.1 / 1000
  le := fun a b => decide (a.1 ≤ b.1)
  beq := fun a b => a.1 == b.1 && (a.1 == 0 || a.2 == b.2)
  fullTurn := (4000, false)
  rhoMax := (100, false)

/-- "Same value, and the same tag unless the value is zero". -/
def szE (a b : SZ) : Prop := a.1 = b.1 ∧ (a.1 ≠ 0 → a.2 = b.2)

/-- To use `szE a b`, take `a` and `b` with one value and tags that agree unless it is zero. -/
@[elab_as_elim] theorem szE.elim {C : SZ → SZ → Prop} {a b : SZ} (h : szE a b)
    (H : ∀ v s s', (v ≠ 0 → s = s') → C (v, s) (v, s')) : C a b := by
  obtain ⟨v, s⟩ := a
  obtain ⟨_, s'⟩ := b
  obtain ⟨rfl, hs⟩ := h
  exact H v s s' hs

theorem szBeq_iff (a b : SZ) : szOps.beq a b = true ↔ szE a b := by
  simp only [szOps, szE, Bool.and_eq_true, Bool.or_eq_true, beq_iff_eq]
  exact and_congr_right fun _ => by rw [Decidable.imp_iff_not_or, Decidable.not_not]

theorem szPER : BeqPER szOps where
  symm := by
    intro a b h
    rw [szBeq_iff] at h ⊢
    obtain ⟨h1, h2⟩ := h
    exact ⟨h1.symm, fun h => (h2 (by rw [h1]; exact h)).symm⟩
  trans := by
    intro a b c h1 h2
    rw [szBeq_iff] at h1 h2 ⊢
    exact ⟨h1.1.trans h2.1, fun h => (h1.2 h).trans (h2.2 (by rw [← h1.1]; exact h))⟩

theorem ediv_ne_zero_left {a b c : Int} (h : a * b / c ≠ 0) : a ≠ 0 ∧ b ≠ 0 :=
  ⟨fun e => h (by simp [e]), fun e => h (by simp [e])⟩

theorem szCompat : EqCompat szOps szE where
  refl := fun a => ⟨rfl, fun _ => rfl⟩
  of_beq := fun a b h => (szBeq_iff a b).1 h
  mul_self := by
    intro a b h
    obtain ⟨h1, _⟩ := (szBeq_iff a b).1 h
    simp [szOps, h1]
  mul := by
    intro _ _ _ _ h k
    refine h.elim fun v s s' hs => k.elim fun w t t' ht => ⟨rfl, fun h0 => ?_⟩
    obtain ⟨hv, hw⟩ := ediv_ne_zero_left h0
    show xor s t = xor s' t'
    rw [hs hv, ht hw]
  add := by
    intro _ _ _ _ h k
    refine h.elim fun v s s' hs => k.elim fun w t t' ht => ⟨rfl, fun h0 => ?_⟩
    simp only [szOps] at h0 ⊢
    by_cases hv : v = 0 <;> by_cases hw : w = 0
    · subst hv hw; simp at h0
    · simp only [hv, hw, if_true, if_false]; exact ht hw
    · simp only [hv, hw, if_true, if_false]; exact hs hv
    · simp only [hv, hw, if_false]; rw [hs hv, ht hw]
  div_left := by
    intro _ _ c h
    refine h.elim fun v s s' hs => ⟨rfl, fun h0 => ?_⟩
    show xor s c.2 = xor s' c.2
    rw [hs (ediv_ne_zero_left h0).1]
  sin := fun _ _ h => h.elim fun v s s' hs => ⟨rfl, fun h0 => hs fun hv => by
    subst hv; exact h0 (by decide : toyCos (0 - 1000) = 0)⟩
  cos := fun _ _ h => h.elim fun _ _ _ _ => ⟨rfl, fun _ => rfl⟩
  floor := fun _ _ h => h.elim fun _ _ _ _ => rfl
theorem szSubSq : SubSqSymm szOps := by
  intro a b
  simp only [szOps, bne_self_eq_false, Prod.mk.injEq, and_true]
  congr 1
  rw [show a.1 - b.1 = -(b.1 - a.1) by omega, Int.neg_mul_neg]

/-- Points `(r, phi, z)`; `neg` tags `phi` and `z` (only visible when they are zero). -/
def szP (r phi z : Int) (neg : Bool := false) : Point SZ := ⟨(r, false), (phi, neg), (z, neg)⟩

/-- Eight points: four on a ray, two on another ray, and a pair of `==` twins with
different representations (`phi = z = +0` and `phi = z = -0`). -/
def szCloud : Array (Point SZ) :=
  #[szP 15000 500 0, szP 15500 500 300, szP 16000 500 600, szP 16500 500 900,
    szP 15000 2500 0, szP 15400 2500 100, szP 15000 0 0, szP 15000 0 0 true]

def szPrm : Params SZ := ⟨5, 4, (400, false)⟩

-- `get_bins`: the theta step with two negative rho bins votes for nothing (t = 2), ranges are
-- clipped at 0 (t = 1, 3)
example : getBins szOps (szP 15000 500 0) 5 4 = .ok [(0, 1), (1, 0), (1, 1), (3, 0), (3, 1)] := by
  decide
-- the twins are `==`, differ as values, and get the same bins (`getBins_respects_eq`)
example : pointBeq szOps (szP 15000 0 0) (szP 15000 0 0 true) = true ∧
    szP 15000 0 0 ≠ szP 15000 0 0 true ∧
    getBins szOps (szP 15000 0 0) 5 4 = getBins szOps (szP 15000 0 0 true) 5 4 :=
  ⟨by decide, by simp [szP], getBins_respects_eq szOps szCompat _ _ (by decide) 5 4⟩
-- and the value: ten bins, computed
example : getBins szOps (szP 15000 0 0 true) 5 4 =
    .ok [(0, 0), (0, 1), (0, 2), (0, 3), (1, 0), (2, 0), (3, 0), (3, 1), (3, 2), (3, 3)] := by
  decide
example : distance szOps (szP 15000 500 0) (szP 15500 500 300) =
    distance szOps (szP 15500 500 300) (szP 15000 500 0) := distance_symm szOps szSubSq _ _

theorem szCloud_refl : ∀ p ∈ szCloud, pointBeq szOps p p = true := by
  intro p _
  rw [pointBeq_iff]
  exact ⟨(szBeq_iff _ _).2 (szCompat.refl _), (szBeq_iff _ _).2 (szCompat.refl _),
    (szBeq_iff _ _).2 (szCompat.refl _)⟩

-- the whole clustering from the points alone: three clusters for `min = 2` (the twins form
-- one), one cluster and an ordered remainder for `min = 3`
-- (by the kernel: the elaborator's `decide` gets stuck on the `Array.map` tables of `ctxOf`)
theorem szRun2 : clusterX szOps id szPrm 2 szCloud = .ok ⟨[[3, 2, 1, 0], [5, 4], [7, 6]], []⟩ := by
  decide +kernel
theorem szRun3 : clusterX szOps id szPrm 3 szCloud = .ok ⟨[[3, 2, 1, 0]], [4, 5, 6, 7]⟩ := by
  decide +kernel

-- every hypothesis of the `*_concrete` theorems is satisfied by this instance
example : ∃ r, clusterX szOps id szPrm 3 szCloud = .ok r :=
  cluster_total_concrete szOps id szPrm szCloud szPER szCompat szCloud_refl
    (fun _ _ _ _ _ _ h => h) 3 (by omega)
example : ∀ c ∈ ([[3, 2, 1, 0]] : List (List Nat)), ∀ p ∈ c, ∀ q ∈ c,
    Reach (ctxOf szOps id szPrm szCloud).near c p q :=
  cluster_connected_concrete szOps id szPrm szCloud szPER szCompat szCloud_refl
    (fun _ _ _ _ _ _ h => h) 3 (by omega) (nearSymm_of_subSqSymm szOps szSubSq _)
    ⟨[[3, 2, 1, 0]], [4, 5, 6, 7]⟩ szRun3
example : ∀ x, cnt (ctxOf szOps id szPrm szCloud) x ([[3, 2, 1, 0]].flatten ++ [4, 5, 6, 7]) =
    cnt (ctxOf szOps id szPrm szCloud) x (List.range szCloud.size) :=
  cluster_partition_concrete szOps id szPrm szCloud szPER szCompat szCloud_refl
    (fun _ _ _ _ _ _ h => h) 3 (by omega) ⟨[[3, 2, 1, 0]], [4, 5, 6, 7]⟩ szRun3

end AlphaG.Hough

namespace AlphaG.Driver.C15b
open Std

/-- Values are below the size and distinct keys have distinct values. -/
def RankInv (m : HashMap Nat Nat) : Prop :=
  (∀ c r : Nat, m[c]? = some r → r < m.size) ∧
  (∀ c c' r : Nat, m[c]? = some r → m[c']? = some r → c = c')

theorem rankStep_spec {m : HashMap Nat Nat} (inv : RankInv m) (c : Nat) :
    RankInv (rankStep m c) ∧ c ∈ rankStep m c ∧ ∀ a ∈ m, a ∈ rankStep m c := by
  unfold rankStep
  split
  · next hc => exact ⟨inv, HashMap.mem_iff_contains.2 hc, fun _ h => h⟩
  · next hc =>
    have hc : ¬ c ∈ m := fun h => hc (HashMap.mem_iff_contains.1 h)
    have get : ∀ a, (m.insert c m.size)[a]? = if c = a then some m.size else m[a]? := fun a => by
      rw [HashMap.getElem?_insert]; simp only [beq_iff_eq]
    refine ⟨⟨fun a r h => ?_, fun a a' r h h' => ?_⟩, HashMap.mem_insert_self,
      fun a h => HashMap.mem_insert.2 (.inr h)⟩
    · rw [HashMap.size_insert, if_neg hc]
      rw [get] at h
      split at h
      · cases h; omega
      · have := inv.1 a r h; omega
    · rw [get] at h h'
      -- the new value `m.size` is above every old value
      split at h <;> split at h'
      · omega
      · cases h; have := inv.1 a' _ h'; omega
      · cases h'; have := inv.1 a _ h; omega
      · exact inv.2 a a' r h h'

theorem foldl_rankStep (codes : List Nat) {m : HashMap Nat Nat} (inv : RankInv m) :
    RankInv (codes.foldl rankStep m) ∧ (∀ a ∈ m, a ∈ codes.foldl rankStep m) ∧
    ∀ c ∈ codes, c ∈ codes.foldl rankStep m := by
  induction codes generalizing m with
  | nil => exact ⟨inv, fun _ h => h, fun _ h => nomatch h⟩
  | cons c cs ih =>
    obtain ⟨i1, hc, hm⟩ := rankStep_spec inv c
    obtain ⟨j1, j2, j3⟩ := ih i1
    exact ⟨j1, fun a h => j2 a (hm a h), List.forall_mem_cons.2 ⟨j2 c hc, j3⟩⟩

/-- The renaming used by `clusterx` is injective on the codes it was built from. -/
theorem rankFn_injOn (codes : List Nat) :
    ∀ c ∈ codes, ∀ c' ∈ codes, rankFn codes c = rankFn codes c' → c = c' := by
  obtain ⟨⟨_, hinj⟩, _, hkeys⟩ := foldl_rankStep codes (m := {})
    ⟨fun c r h => by simp at h, fun c c' r h => by simp at h⟩
  intro c hc c' hc' h
  have e := HashMap.getElem?_eq_some_getElem (hkeys c hc)
  have e' := HashMap.getElem?_eq_some_getElem (hkeys c' hc')
  simp only [rankFn, rankMap, HashMap.getD_eq_getD_getElem?, e, e', Option.getD_some] at h
  exact hinj c c' _ e (h ▸ e')

/-- Hence the hypothesis `hren` of the `*_concrete` theorems holds for the context the driver
runs (`ren := rankFn (allCodes prm pts)`, carrier `Float`). -/
theorem driver_ren_ok (prm : AlphaG.Hough.Params Float) (pts : Array (AlphaG.Hough.Point Float)) :
    ∀ p ∈ pts, ∀ c ∈ AlphaG.Hough.binCodes floatOps prm p, ∀ c' ∈ AlphaG.Hough.binCodes floatOps prm p,
      rankFn (allCodes prm pts) c = rankFn (allCodes prm pts) c' → c = c' := by
  intro p hp c hc c' hc'
  have mem : ∀ x ∈ AlphaG.Hough.binCodes floatOps prm p, x ∈ allCodes prm pts := by
    intro x hx
    unfold allCodes
    exact List.mem_flatMap.2 ⟨p, Array.mem_toList_iff.2 hp, hx⟩
  exact rankFn_injOn _ c (mem c hc) c' (mem c' hc')

/-- The context `clusterx` runs is `Good` as soon as `Float` satisfies the carrier laws (which
cannot be proved in Lean and are sampled by the harness) and no input coordinate is NaN. -/
theorem driver_ctx_good {E : Float → Float → Prop} (B : AlphaG.Hough.BeqPER floatOps)
    (L : AlphaG.Hough.EqCompat floatOps E) (prm : AlphaG.Hough.Params Float)
    (pts : Array (AlphaG.Hough.Point Float))
    (hrefl : ∀ p ∈ pts, AlphaG.Hough.pointBeq floatOps p p = true) :
    (AlphaG.Hough.ctxOf floatOps (rankFn (allCodes prm pts)) prm pts).Good :=
  AlphaG.Hough.ctxOf_good floatOps _ prm pts B L hrefl (driver_ren_ok prm pts)

end AlphaG.Driver.C15b
