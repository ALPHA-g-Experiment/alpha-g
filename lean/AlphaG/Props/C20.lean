import AlphaG.Model.Csv
/-
C20 — the Chronobox timestamps CSV never reports a wrong time.
The epoch logic of `chronobox_time` and the row loop, proved against an independent model of
the hardware FIFO. The real binary is tied end to end by the harness (hardware-model streams cut
into banks / events / files → real executable → CSV → diff with `boardRows`). Core Lean only.

Hardware model (from the property text): a free-running tick counter `T` at 10 MHz; an edge at
tick `T` on a channel is the word whose low 24 bits are `T mod 2^24` with bit 0 replaced by the
edge flag; a wrap-around marker with counter `c` (starting at 0) is emitted every half wrap, at
`T = (c+1)·2^23`, its top bit alternating and clear for `c = 0`. The *marker interval* `k ≥ 1`
is the stretch of the FIFO between marker `k-1` and marker `k`; an edge whose tick satisfies
`T / 2^23 = k` belongs there, but may be displaced by one interval by FIFO arbitration.
-/
namespace AlphaG.Csv

/-- Marker number `c` of the hardware model. -/
def hwMarker (c : Nat) : Marker := { top := decide (c % 2 = 1), counter := c }

/-- The timestamp entry of an edge at tick `T` (the decoder clears bit 0, which holds the edge). -/
def hwTsc (T ch : Nat) (leading : Bool) : Tsc :=
  { channel := ch, timestamp := (T % 2 ^ 24) / 2 * 2, leading := leading }

/-- The true time the CSV should report, in ticks (the edge flag occupies bit 0). -/
def trueTime (T : Nat) : Nat := T / 2 * 2

/-- Bit 23 of the FIFO word is the parity of the tick's half-wrap number. -/
theorem hwTsc_top (T : Nat) : T % 2 ^ 24 / 2 * 2 / 2 ^ 23 = T / 2 ^ 23 % 2 := by omega

theorem odd_ne_iff (q a : Nat) : (¬(q % 2 = 1 ↔ a % 2 = 1)) ↔ q % 2 = (a + 1) % 2 := by omega

/-- The epoch logic on hardware words, evaluated: a time is reported iff the enclosing counters
are consecutive and the tick's half-wrap number has the parity of the closing one. -/
theorem cbtime_hw (T ch : Nat) (l : Bool) (a b : Nat) :
    chronoboxTime (hwTsc T ch l) (some (hwMarker a)) (some (hwMarker b))
      = if a + 1 = b ∧ T / 2 ^ 23 % 2 = b % 2 then some (T % 2 ^ 24 / 2 * 2 + b / 2 * 2 ^ 24)
        else none := by
  simp only [chronoboxTime, hwMarker, hwTsc, Nat.shiftRight_eq_div_pow, hwTsc_top, ne_eq,
    decide_eq_decide, odd_ne_iff]
  by_cases hab : a + 1 = b
  · subst hab
    -- consecutive counters differ in parity: the code's comparison of the top bits adds nothing
    rw [if_pos ⟨rfl, by omega⟩]
    simp only [true_and]
  · rw [if_neg (fun h => hab h.1), if_neg (fun h => hab h.1)]

/-- What a reported time tells: the enclosing counters are consecutive, the tick's half-wrap number
has the parity of the closing one, and the time is the word's 24 bits plus the closing epoch. -/
theorem cbtime_hw_some {T ch : Nat} {l : Bool} {a b t : Nat}
    (h : chronoboxTime (hwTsc T ch l) (some (hwMarker a)) (some (hwMarker b)) = some t) :
    a + 1 = b ∧ T / 2 ^ 23 % 2 = b % 2 ∧ t = T % 2 ^ 24 / 2 * 2 + b / 2 * 2 ^ 24 := by
  rw [cbtime_hw] at h
  split at h
  · rename_i hc
    exact ⟨hc.1, hc.2, (Option.some.inj h).symm⟩
  · cases h

/-- In its own interval the word's 24 bits and the epoch add up to the tick (edge bit cleared). -/
theorem epoch_time (T b : Nat) (h : T / 2 ^ 23 = b) :
    T % 2 ^ 24 / 2 * 2 + b / 2 * 2 ^ 24 = trueTime T := by
  unfold trueTime; omega

/-- An edge sitting in its own marker interval is reported at its true time. -/
theorem cbtime_correct (T ch : Nat) (l : Bool) (k : Nat) (hk : 1 ≤ k) (hT : T / 2 ^ 23 = k) :
    chronoboxTime (hwTsc T ch l) (some (hwMarker (k - 1))) (some (hwMarker k))
      = some (trueTime T) := by
  rw [cbtime_hw, if_pos ⟨by omega, by rw [hT]⟩, epoch_time T k hT]

/-- An edge displaced into the following interval gets no time (never a wrong one). -/
theorem cbtime_wrong_side_late (T ch : Nat) (l : Bool) (k : Nat) (hk : 1 ≤ k)
    (hT : T / 2 ^ 23 = k) :
    chronoboxTime (hwTsc T ch l) (some (hwMarker k)) (some (hwMarker (k + 1))) = none := by
  rw [cbtime_hw, hT, if_neg (by omega)]

/-- An edge displaced into the preceding interval gets no time. -/
theorem cbtime_wrong_side_early (T ch : Nat) (l : Bool) (k : Nat) (hk : 2 ≤ k)
    (hT : T / 2 ^ 23 = k) :
    chronoboxTime (hwTsc T ch l) (some (hwMarker (k - 2))) (some (hwMarker (k - 1))) = none := by
  rw [cbtime_hw, hT, if_neg (by omega)]

/-- Exactly when no time is reported. -/
theorem cbtime_none_iff (t : Tsc) (p n : Option Marker) :
    chronoboxTime t p n = none ↔
      p = none ∨ n = none ∨
        ∃ pm nm, p = some pm ∧ n = some nm ∧
          (pm.counter + 1 ≠ nm.counter ∨ pm.top = nm.top
            ∨ decide (t.timestamp >>> 23 = 1) = pm.top) := by
  match p, n with
  | none, _ => simp [chronoboxTime]
  | some _, none => simp [chronoboxTime]
  | some pm, some nm => simp [chronoboxTime, Decidable.imp_iff_not_or, or_assoc]

/-- The last chunk of a stream has no closing marker: its timestamps get no time. -/
theorem cbtime_open (t : Tsc) (p : Option Marker) : chronoboxTime t p none = none :=
  (cbtime_none_iff t p none).2 (.inr (.inl rfl))

/-- **Never a wrong time.** Whatever two hardware markers enclose an edge in the FIFO (this
covers dropped and duplicated markers: they only change which markers are neighbours), if the
edge is displaced by at most one interval from where its tick belongs and a time is reported,
that time is the true time. -/
theorem never_wrong (T ch : Nat) (l : Bool) (a b : Nat) (t : Nat)
    (hdisp : T / 2 ^ 23 = a ∨ T / 2 ^ 23 = a + 1 ∨ T / 2 ^ 23 = a + 2)
    (h : chronoboxTime (hwTsc T ch l) (some (hwMarker a)) (some (hwMarker b)) = some t) :
    t = trueTime T := by
  -- a displacement of at most one interval and the parity single out `T / 2^23 = b`
  obtain ⟨hab, hpar, rfl⟩ := cbtime_hw_some h
  exact epoch_time T b (by omega)

def tsOf : List Entry → List Tsc
  | [] => []
  | .ts t :: rest => t :: tsOf rest
  | .marker _ :: rest => tsOf rest

theorem rowsGo_complete (prev : Option Marker) (pending : List Tsc) (es : List Entry) :
    (rowsGo prev pending es).map (fun r => (r.channel, r.leading))
      = (pending ++ tsOf es).map (fun t => (t.channel, t.leading)) := by
  fun_induction rowsGo prev pending es with
  | case1 => simp [tsOf, rowFor]
  | case2 prev pending t rest ih => simp [tsOf, ih]
  | case3 prev pending m rest ih => simp [tsOf, ih, rowFor]

/-- **Rows complete.** One row per timestamp after the first counter-0 marker, in stream
order, with its channel and edge (none is lost — in particular not the last one of a stream that
does not end in a marker, the defect repaired by 80227a4). -/
theorem rows_complete (fifo : List Entry) (rows : List CbRow)
    (h : boardRows true fifo = .ok rows) :
    rows.map (fun r => (r.channel, r.leading))
      = (tsOf (fifo.dropWhile (fun e => !isEpoch0 e))).map (fun t => (t.channel, t.leading)) := by
  unfold boardRows at h
  simp only [Bool.not_true, Bool.false_eq_true, if_false] at h
  split at h
  · cases h
  · rename_i m rest heq
    split at h
    · cases h
    · injection h with h
      subst h
      rw [heq, rowsGo_complete]
      simp
  · cases h

theorem boardRows_skip {e : Entry} (h : isEpoch0 e = false) (s : List Entry) :
    boardRows true (e :: s) = boardRows true s := by
  simp [boardRows, h]

theorem boardRows_epoch0 {m : Marker} (h : m.counter = 0) (s : List Entry) :
    boardRows true (.marker m :: s)
      = if m.top then .err .badFirstMarker else .ok (rowsGo (some m) [] s) := by
  simp [boardRows, isEpoch0, h, rowsGo]

theorem boardRows_append_epoch0 {pre : List Entry} (hpre : ∀ e ∈ pre, isEpoch0 e = false)
    {m : Marker} (hm : m.counter = 0) (rest : List Entry) :
    boardRows true (pre ++ .marker m :: rest)
      = if m.top then .err .badFirstMarker else .ok (rowsGo (some m) [] rest) := by
  induction pre with
  | nil => exact boardRows_epoch0 hm rest
  | cons p ps ih =>
    rw [List.cons_append, boardRows_skip (hpre p List.mem_cons_self)]
    exact ih (fun e he => hpre e (List.mem_cons_of_mem _ he))

/-- **Fails closed.** Leftover FIFO bytes, a missing counter-0 marker or a first marker with its
top bit set give an error, never rows. -/
theorem fails_closed_remainder (fifo : List Entry) : boardRows false fifo = .err .badFifo := by
  simp [boardRows]

theorem fails_closed_no_epoch0 (fifo : List Entry) (h : ∀ e ∈ fifo, isEpoch0 e = false) :
    boardRows true fifo = .err .missingEpoch0 := by
  induction fifo with
  | nil => rfl
  | cons e es ih =>
    rw [boardRows_skip (h e List.mem_cons_self)]
    exact ih (fun x hx => h x (List.mem_cons_of_mem _ hx))

theorem fails_closed_first_marker (pre rest : List Entry) (m : Marker)
    (hpre : ∀ e ∈ pre, isEpoch0 e = false) (hm : m.counter = 0) (htop : m.top = true) :
    boardRows true (pre ++ .marker m :: rest) = .err .badFirstMarker := by
  rw [boardRows_append_epoch0 hpre hm, if_pos htop]

/-- The `unreachable!()` arms are unreachable: the program never panics on any FIFO. -/
theorem boardRows_total (ok : Bool) (fifo : List Entry) : ∀ s, boardRows ok fifo ≠ .panic s := by
  intro s
  unfold boardRows
  split
  · simp
  · split
    · simp
    · split <;> simp
    · rename_i t rest heq
      exfalso
      have := List.head?_dropWhile_not (fun e => !isEpoch0 e) fifo
      rw [heq] at this
      simp [isEpoch0] at this

/-- Non-vacuity: a two-wrap stream with an edge in every interval, one displaced. -/
example : boardRows true
    [ .ts (hwTsc 5 3 true),                       -- before epoch 0: dropped
      .marker (hwMarker 0),
      .ts (hwTsc (2 ^ 23 + 10) 1 true),           -- interval 1, in place
      .marker (hwMarker 1),
      .ts (hwTsc (2 ^ 23 + 2 ^ 22) 2 false),      -- belongs to interval 1, displaced: no time
      .ts (hwTsc (2 ^ 24 + 7) 4 true),            -- interval 2, in place (bit 0 is the edge)
      .marker (hwMarker 2),
      .ts (hwTsc (2 ^ 24 + 2 ^ 23 + 100) 5 true)  -- no closing marker: no time, but a row
    ] = .ok [ ⟨1, true, some (2 ^ 23 + 10)⟩, ⟨2, false, none⟩, ⟨4, true, some (2 ^ 24 + 6)⟩,
              ⟨5, true, none⟩ ] := by decide

end AlphaG.Csv
