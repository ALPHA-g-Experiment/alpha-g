import AlphaG.Model.Helix
import Mathlib.Analysis.SpecialFunctions.Complex.Arg
import Mathlib.Analysis.SpecialFunctions.Trigonometric.Deriv
/-
C16 — reported track parameters are true closest-approach parameters.

What is proved here (model of `Helix::closest_t`, see Model/Helix.lean):
* `closest_t_range`: for *any* carrier with a linear order and an `atan2` with range [−π, π], the
  returned `t` lies in [−π, π] — whatever the Newton loop does (any pitch, any iteration count).
* over ℝ (`realOps`, exact arithmetic): `circle_case_optimal` — for pitch `h = 0` the returned `t`
  minimises the distance over *all* `t` (in particular over the revolution [−π, π]).
For `h ≠ 0` see Props/C16b.lean (over ℝ: the roots of Kepler's equation are the stationary points
of the distance, and global minimisers when `|e| < 1`; Newton's iteration from the code's start
converges to the root when `0 ≤ e < 1`). NOT proved: anything about `f64` rounding or about the
result after ≤ 20 Newton steps with a tolerance, and global optimality for `e ≥ 1`. That is decided
on the implementation by the harness oracle (dense grid + refinement), i.e. by search.
-/
namespace AlphaG.Helix

section Range
variable {α : Type} [LinearOrder α] (o : HOps α)

theorem clamp_range (hlt : ∀ a b, o.lt a b = decide (a < b)) (x lo hi : α) (h : lo ≤ hi) :
    lo ≤ clamp o x lo hi ∧ clamp o x lo hi ≤ hi := by
  unfold clamp
  simp only [hlt, decide_eq_true_eq]
  split_ifs with h1 h2
  · exact ⟨le_refl _, h⟩
  · exact ⟨h, le_refl _⟩
  · exact ⟨not_lt.1 h1, not_lt.1 h2⟩

/-- **Range.** `closest_t` always returns a value in [−π, π]: zero, subnormal, tiny or huge pitch,
any number of Newton iterations, any tolerance. (For `f64` this is the statement for non-NaN
results; a NaN would pass through `clamp`. NaN-freedom is sampled by the harness.) -/
theorem closest_t_range (hlt : ∀ a b, o.lt a b = decide (a < b)) (hpi : o.neg o.pi ≤ o.pi)
    (hatan : ∀ y x, o.neg o.pi ≤ o.atan2 y x ∧ o.atan2 y x ≤ o.pi)
    (q : Params α) (p : Point α) (tol : α) (n : Nat) :
    o.neg o.pi ≤ closestT o q p tol n ∧ closestT o q p tol n ≤ o.pi := by
  unfold closestT
  split
  · exact hatan _ _
  · exact clamp_range o hlt _ _ _ hpi

end Range

/-- The real-number interpretation of the operations (`atan2 y x = arg (x + iy)`). -/
noncomputable def realOps : HOps ℝ where
  add := (· + ·)
  sub := (· - ·)
  mul := (· * ·)
  div := (· / ·)
  neg := fun x => -x
  abs := fun x => |x|
  lt := fun a b => decide (a < b)
  sin := Real.sin
  cos := Real.cos
  atan2 := fun y x => Complex.arg ⟨x, y⟩
  hypot := fun x y => Real.sqrt (x ^ 2 + y ^ 2)
  floor := fun x => (⌊x⌋ : ℝ)
  zero := 0
  one := 1
  two := 2
  four := 4
  pi := Real.pi
  eps := 2 ^ (-52 : ℤ)

/-- Squared distance between the helix point at parameter `t` and the point `p`. -/
noncomputable def distSq (q : Params ℝ) (p : Point ℝ) (t : ℝ) : ℝ :=
  ((helixAt realOps q t).1 - px realOps p) ^ 2 + ((helixAt realOps q t).2.1 - py realOps p) ^ 2
    + ((helixAt realOps q t).2.2 - p.z) ^ 2

/-- The real instance satisfies the hypotheses of `closest_t_range`. -/
theorem closest_t_range_real (q : Params ℝ) (p : Point ℝ) (tol : ℝ) (n : Nat) :
    -Real.pi ≤ closestT realOps q p tol n ∧ closestT realOps q p tol n ≤ Real.pi :=
  closest_t_range realOps (fun _ _ => rfl) (show -Real.pi ≤ Real.pi by linarith [Real.pi_pos])
    (fun y x => ⟨le_of_lt (Complex.neg_pi_lt_arg _), Complex.arg_le_pi _⟩) q p tol n

theorem lincomb_le_abs (c d t : ℝ) :
    c * Real.cos t + d * Real.sin t ≤ Real.sqrt (c ^ 2 + d ^ 2) := by
  have h : (c * Real.cos t + d * Real.sin t) ^ 2 + (c * Real.sin t - d * Real.cos t) ^ 2
      = c ^ 2 + d ^ 2 := by
    linear_combination (c ^ 2 + d ^ 2) * Real.cos_sq_add_sin_sq t
  exact (le_abs_self _).trans
    (Real.abs_le_sqrt (by linarith [sq_nonneg (c * Real.sin t - d * Real.cos t)]))

/-- `(c, d)` in polar form -/
theorem sqrt_mul_cos_arg (c d : ℝ) :
    Real.sqrt (c ^ 2 + d ^ 2) * Real.cos (Complex.arg ⟨c, d⟩) = c ∧
      Real.sqrt (c ^ 2 + d ^ 2) * Real.sin (Complex.arg ⟨c, d⟩) = d := by
  rw [← Complex.norm_eq_sqrt_sq_add_sq ⟨c, d⟩]
  exact ⟨Complex.norm_mul_cos_arg _, Complex.norm_mul_sin_arg _⟩

theorem lincomb_at_arg (c d : ℝ) :
    c * Real.cos (Complex.arg ⟨c, d⟩) + d * Real.sin (Complex.arg ⟨c, d⟩)
      = Real.sqrt (c ^ 2 + d ^ 2) := by
  obtain ⟨hc, hs⟩ := sqrt_mul_cos_arg c d
  linear_combination (-Real.cos (Complex.arg ⟨c, d⟩)) * hc + (-Real.sin (Complex.arg ⟨c, d⟩)) * hs
    + Real.sqrt (c ^ 2 + d ^ 2) * Real.cos_sq_add_sin_sq (Complex.arg ⟨c, d⟩)

/-- In the circle branch `closest_t` returns the angle of `(c, d)`, the dot and cross product of
the radius vector at `t = 0` with the point's offset from the axis. -/
theorem closestT_circle (q : Params ℝ) (p : Point ℝ) (tol : ℝ) (n : Nat) (h0 : q.h = 0) :
    closestT realOps q p tol n = Complex.arg
      ⟨q.r * Real.cos q.phi0 * (px realOps p - q.x0) + q.r * Real.sin q.phi0 * (py realOps p - q.y0),
       q.r * Real.cos q.phi0 * (py realOps p - q.y0) - q.r * Real.sin q.phi0 * (px realOps p - q.x0)⟩ := by
  have hbranch : realOps.lt (realOps.abs q.h) realOps.eps = true := by
    simp only [realOps, h0, abs_zero, decide_eq_true_eq]; positivity
  unfold closestT
  rw [if_pos hbranch]
  simp only [angleBetween, helixAt, realOps, zero_add, add_sub_cancel_right]

/-- For pitch 0 the squared distance is a constant minus `2 (c cos t + d sin t)`, with the same
`(c, d)`. -/
theorem distSq_circle (q : Params ℝ) (p : Point ℝ) (h0 : q.h = 0) (t : ℝ) :
    distSq q p t
      = q.r ^ 2 + (px realOps p - q.x0) ^ 2 + (py realOps p - q.y0) ^ 2 + (q.z0 - p.z) ^ 2
        - 2 * ((q.r * Real.cos q.phi0 * (px realOps p - q.x0)
                  + q.r * Real.sin q.phi0 * (py realOps p - q.y0)) * Real.cos t
            + (q.r * Real.cos q.phi0 * (py realOps p - q.y0)
                  - q.r * Real.sin q.phi0 * (px realOps p - q.x0)) * Real.sin t) := by
  have e : (Real.cos t ^ 2 + Real.sin t ^ 2) * (Real.cos q.phi0 ^ 2 + Real.sin q.phi0 ^ 2) = 1 := by
    rw [Real.cos_sq_add_sin_sq, Real.cos_sq_add_sin_sq, one_mul]
  simp only [distSq, helixAt, realOps, h0, zero_div, zero_mul, zero_add]
  rw [Real.cos_add, Real.sin_add]
  linear_combination q.r ^ 2 * e

/-- **Circle case.** For pitch exactly 0 the value returned by `closest_t` minimises the
distance to the point over every parameter `t` (for any radius, centre, phase and point). -/
theorem circle_case_optimal (q : Params ℝ) (p : Point ℝ) (tol : ℝ) (n : Nat) (h0 : q.h = 0)
    (t : ℝ) : distSq q p (closestT realOps q p tol n) ≤ distSq q p t := by
  rw [closestT_circle q p tol n h0, distSq_circle q p h0, distSq_circle q p h0, lincomb_at_arg]
  exact sub_le_sub_left (mul_le_mul_of_nonneg_left (lincomb_le_abs _ _ t) zero_le_two) _

end AlphaG.Helix
