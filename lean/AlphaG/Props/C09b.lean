import AlphaG.Props.C09bStages
import AlphaG.Props.C13b
/-
C09b — `MainEvent::vertex()` as the composition of its stage models
(`Model/VertexPipeline.lean`, tied to the built code by harness/src/c09b.rs): what the composition
gives, for **every** carrier `α` and every operation table `P : Pipe α`, under the named
hypotheses of the parts, bundled in `Laws P E Num nan`:

  `responses`   the Rust `assert!` on the two response tables (C17 `ResponseNeg`);
  `driftShape`  the drift tables have ≥ 1 slice and ≥ 2 knots per table (no arithmetic);
  `cluster`     C15b: `==` is a partial equivalence the Hough operations respect, the renaming of
                bin codes is injective per point;
  `fit`         C14c: strict weak order on the non-NaN values, `partial_cmp = None` iff NaN, the
                cost functions return non-NaN values when they return, `ε ≥ 0`;
  `trackEq`     `Track ==` symmetric and transitive, `0.0 == 0.0`.
Every one of them is true of IEEE `f64`; none is provable for Lean's opaque `Float`
(the stage harnesses sample them). No law of arithmetic (`+ - * /`, `sqrt`, `sin` …) is used.

(a) `vertex_panic_sites`  — the exhaustive inventory: a panic of `vertex()` is at one of 14 named
    sites (`allSites`: 12 of the Rust code and the model's two fuel sentinels), each with its
    trigger, stage by stage:
      1. `wires:cholesky-unwrap`                 a wire block whose `a_matrix` meets a non-positive pivot
      2. `drift:find`                            an avalanche whose `|z|` compares false with every
                                                 z bound (NaN `z`)
      3. `remove_unchecked:*`, `remainder:position` (+ the model's two fuel sentinels)
                                                 a space point that is not `==` itself (NaN coordinate)
      4. `fit_cluster_to_helix:assert_len`       a cluster of fewer than three points
         `three_template_points:partial_cmp_unwrap`   a NaN radius deviation
         `track_fitting:cost_function:nan_assert`     a NaN squared distance point ↔ helix, for some
                                                 6-vector (not necessarily one the minimiser evaluates;
                                                 likewise for the vertex cost below)
      5. `beamline_clusters:partial_cmp`         a NaN `z` of closest approach to the beamline
         `find_vertices:partial_cmp`             two incomparable radius sums
         `vertex_fitting:cost_function:nan_assert`    a NaN squared distance vertex ↔ track
         `find_vertices:position`                a track that is not `==` itself
    Unreachable and therefore absent: `wires:max-unwrap`, every deconvolution site, `drift:index`,
    `drift:lhs_index`, `get_bins:try_into`, every argmin / argmin-math site, `best_param.unwrap()`,
    `tracks[0]`, `clusters.last().unwrap()`.
(b) `vertex_total_of_no_nan` — if no pivot fails and none of the NaN triggers above occurs on the
    intermediate values of the event, `vertex()` returns.
(c) `vertex_result_spec` — a returned position is a point at which the vertex cost was evaluated, with
    cost not above the cost at the four vertices of the initial simplex, for a
    beamline cluster of ≥ 2 fitted tracks; every track is the fit of a cluster of ≥ 13 space
    points; every space point is the drift lookup of an avalanche of the event.
-/
namespace AlphaG.VertexPipeline
open AlphaG AlphaG.Cluster AlphaG.NelderMead AlphaG.TrackInit AlphaG.Helix
open AlphaG.Ranges AlphaG.Matching AlphaG.Avalanches

variable {α : Type} (P : Pipe α)

/-- The named hypotheses of the parts. -/
structure Laws (E : α → α → Prop) (Num nan : α → Prop) : Prop where
  responses : ResponsesOk P.deconv P.tables
  driftShape : DriftShape P.driftTables
  cluster : ClusterLaws P E
  fit : FitLaws P Num nan
  trackEq : TrackEqLaws P

/-- `|z|` compares false with every z bound of the drift tables: not `>` the last, not `<=` any
(in `f64`: `z` is NaN). The trigger of `find(..).unwrap()` in `DriftTables::at`. -/
def ZIncomparable (z : α) : Prop :=
  (∀ sl ∈ P.driftTables, P.drift.ge sl.zUpper (P.drift.abs z) = false) ∧
  ∀ last, P.driftTables.getLast? = some last → P.drift.gt (P.drift.abs z) last.zUpper = false

/-- The Cholesky factorisation of `a_matrix(len)` fails for the wire block of the range `r`. -/
def PivotFails (r : Nat × Nat) : Prop :=
  cholFactor P.deconv P.tables.sqrt (blockLen r) (aTable P.deconv P.tables.factors (blockLen r)) = none

/-- Every site `vertex()` can panic at. -/
def allSites : List String :=
  ["wires:cholesky-unwrap", "drift:find"] ++ clusterSites ++
  [siteAssertLen, sitePartialCmp, siteTrackNaN,
   "beamline_clusters:partial_cmp", "find_vertices:partial_cmp", siteVertexNaN, "find_vertices:position"]

variable {P}

theorem pointOf_panic {E : α → α → Prop} {Num nan : α → Prop} (H : Laws P E Num nan)
    (a : Matching.Avalanche α) (s : String) (h : pointOf P a = .panic s) :
    s = "drift:find" ∧ ZIncomparable P a.z :=
  tablesAt_panic P.drift P.driftTables H.driftShape _ _ s ((spacePoint_panic _ _ _ s).1 h)

/-- **(a) The panic inventory of `MainEvent::vertex()`**, any carrier. -/
theorem vertex_panic_sites {E : α → α → Prop} {Num nan : α → Prop} (H : Laws P E Num nan)
    (ev : Matching.Event α) (s : String) (h : vertexOfSignals P ev = .panic s) :
    -- stage 1: `self.avalanches()`
    (s = "wires:cholesky-unwrap" ∧ ∃ r ∈ contiguousRanges (occupancy ev), PivotFails P r) ∨
    -- stage 2: `SpacePoint::try_from(avalanche)`
    (s = "drift:find" ∧ ∃ avs, stageAvalanches P ev = .ok avs ∧ ∃ a ∈ avs, ZIncomparable P a.z) ∨
    -- stage 3: `cluster_spacepoints(points)`
    (s ∈ clusterSites ∧ ∃ avs pts, stageAvalanches P ev = .ok avs ∧ stagePoints P avs = .ok pts ∧
      ∃ p ∈ pts, Hough.pointBeq P.hough p p = false) ∨
    -- stage 4: `Track::try_from(cluster)`
    (∃ avs pts r, stageAvalanches P ev = .ok avs ∧ stagePoints P avs = .ok pts ∧
      stageClusters P pts = .ok r ∧ ∃ c ∈ r.clusters, FitTrigger P nan (clusterPoints pts c) s) ∨
    -- stage 5: `find_vertices(tracks)`
    (∃ avs pts r ts, stageAvalanches P ev = .ok avs ∧ stagePoints P avs = .ok pts ∧
      stageClusters P pts = .ok r ∧ stageTracks P pts r.clusters = .ok ts ∧ VertexTrigger P nan ts s) := by
  rcases (vertex_panic_stage P ev s).1 h with h1 | ⟨avs, h1, h2 | ⟨pts, h2, h3 | ⟨r, h3, h4 | ⟨ts, h4, h5⟩⟩⟩⟩
  · exact Or.inl (run_panic P.deconv P.geo P.sorter H.responses ev s h1)
  · obtain ⟨a, ha, hp⟩ := (stagePoints_spec P avs).of_panic h2
    obtain ⟨hs, hz⟩ := pointOf_panic H a s hp
    exact Or.inr (Or.inl ⟨hs, avs, h1, a, ha, hz⟩)
  · obtain ⟨hs, p, hp, hb⟩ := stageClusters_panic H.cluster pts s h3
    exact Or.inr (Or.inr (Or.inl ⟨hs, avs, pts, h1, h2, p, hp, hb⟩))
  · obtain ⟨c, hc, ht⟩ := (stageTracks_spec H.fit pts r.clusters).of_panic h4
    exact Or.inr (Or.inr (Or.inr (Or.inl ⟨avs, pts, r, h1, h2, h3, c, hc, ht⟩)))
  · exact Or.inr (Or.inr (Or.inr (Or.inr
      ⟨avs, pts, r, ts, h1, h2, h3, h4, stageVertex_panic H.fit H.trackEq ts s h5⟩)))

/-- **(a), the list alone**: whatever the event, a panic of `vertex()` names one of `allSites`. -/
theorem vertex_panic_site_mem {E : α → α → Prop} {Num nan : α → Prop} (H : Laws P E Num nan)
    (ev : Matching.Event α) (s : String) (h : vertexOfSignals P ev = .panic s) : s ∈ allSites := by
  rcases vertex_panic_sites H ev s h with ⟨hs, _⟩ | ⟨hs, _⟩ | ⟨hs, _⟩ | ⟨_, _, _, _, _, _, _, _, ht⟩ |
    ⟨_, _, _, _, _, _, _, _, ht⟩
  · subst hs; simp [allSites]
  · subst hs; simp [allSites]
  · simp only [allSites, List.mem_append]
    exact Or.inl (Or.inr hs)
  · rcases ht with ⟨_, hs⟩ | ⟨_, hs, _⟩ | ⟨hs, _⟩ <;> subst hs <;> simp [allSites]
  · rcases ht with ⟨hs, _⟩ | ⟨hs, _⟩ | ⟨hs, _⟩ | ⟨hs, _⟩ <;> subst hs <;> simp [allSites]

variable (P)

/-- No NaN reaches the track fit of the points `cp`: no radius deviation from the middle radius is
NaN, and no squared distance point ↔ helix is NaN, for any helix. -/
def NoFitNaN (nan : α → Prop) (cp : List (Helix.Point α)) : Prop :=
  (∀ f l, (minmaxByKey P.fit.t.h.lt (fun p : Helix.Point α => p.r) cp).intoOption = some (f, l) →
    ∀ p ∈ cp, ¬ nan (devFrom P.fit.t (midR P.fit.t f l) p)) ∧
  (∀ x : List α, x.length = 6 → ∀ pt ∈ cp,
    P.fit.isNaN (distSq P.fit P.c.epsilon maxClosestTIters (paramsOf P.fit x) pt) = false)

/-- No NaN reaches `find_vertices` on the tracks `ts`: every track is `==` itself, no `z` of closest
approach is NaN, radius sums are comparable, no squared distance vertex ↔ track is NaN. The radius
sums are those of *all* index lists, as in `VertexTrigger`: more than the code needs. -/
def NoVertexNaN (nan : α → Prop) (ts : Array (TrackP α)) : Prop :=
  TracksReflexive P ts ∧ (∀ t ∈ ts, ¬ nan (beamZ P.fit.t t)) ∧
  (∀ a b : List Nat, (vertexCtx P ts).cmp a b ≠ none) ∧
  (∀ x : List α, x.length = 3 → ∀ t ∈ ts,
    P.fit.isNaN (distSq P.fit P.c.epsilon maxClosestTIters t.q (vertexPoint P.fit x)) = false)

variable {P}

/-- **(b) `vertex()` returns** when no pivot of a wire block fails and no NaN occurs among the
intermediate values: every avalanche `z` is comparable with the z bounds, every space point is
`==` itself, no NaN reaches a track fit or the vertexing. -/
theorem vertex_total_of_no_nan {E : α → α → Prop} {Num nan : α → Prop} (H : Laws P E Num nan)
    (ev : Matching.Event α)
    (hchol : ∀ r ∈ contiguousRanges (occupancy ev), ¬ PivotFails P r)
    (hz : ∀ avs, stageAvalanches P ev = .ok avs → ∀ a ∈ avs, ¬ ZIncomparable P a.z)
    (hpts : ∀ avs pts, stageAvalanches P ev = .ok avs → stagePoints P avs = .ok pts →
      PointsReflexive P pts)
    (hfit : ∀ avs pts r, stageAvalanches P ev = .ok avs → stagePoints P avs = .ok pts →
      stageClusters P pts = .ok r → ∀ c ∈ r.clusters, NoFitNaN P nan (clusterPoints pts c))
    (hvtx : ∀ avs pts r ts, stageAvalanches P ev = .ok avs → stagePoints P avs = .ok pts →
      stageClusters P pts = .ok r → stageTracks P pts r.clusters = .ok ts → NoVertexNaN P nan ts) :
    ∃ v, vertexOfSignals P ev = .ok v := by
  obtain ⟨avs, h1⟩ : ∃ avs, stageAvalanches P ev = .ok avs :=
    (run_spec P.deconv P.geo P.sorter H.responses ev).total fun s ⟨_, r, hr, hc⟩ => hchol r hr hc
  obtain ⟨pts, h2⟩ := (stagePoints_spec P avs).total fun s ⟨a, ha, hp⟩ =>
    hz avs h1 a ha (pointOf_panic H a s hp).2
  have hrefl := hpts avs pts h1 h2
  obtain ⟨r, h3⟩ := stageClusters_total H.cluster pts hrefl
  obtain ⟨ts, h4⟩ := (stageTracks_spec H.fit pts r.clusters).total fun s ⟨c, hc, htrig⟩ => by
    obtain ⟨hmin, hin⟩ := (stageClusters_spec H.cluster pts hrefl r h3).2 c hc
    have hlen := clusterPoints_length pts c hin
    obtain ⟨hdev, hd⟩ := hfit avs pts r h1 h2 h3 c hc
    rcases htrig with ⟨hl, _⟩ | ⟨_, _, f, l, hfl, p, hp', hn⟩ | ⟨_, x, hx, pt, hpt, hn⟩
    · rw [hlen] at hl
      simp only [minClusterSize] at hmin
      omega
    · exact hdev f l hfl p hp' hn
    · rw [hd x hx pt hpt] at hn; cases hn
  obtain ⟨hr, hbz, hsum, hd⟩ := hvtx avs pts r ts h1 h2 h3 h4
  obtain ⟨v, h5⟩ := (stageVertex_spec H.fit H.trackEq ts).total fun s htrig => by
    rcases htrig with ⟨_, t, ht, hn⟩ | ⟨_, a, b, hc⟩ | ⟨_, x, hx, t, ht, hn⟩ | ⟨_, t, ht, hn⟩
    · exact hbz t ht hn
    · exact hsum a b hc
    · rw [hd x hx t ht] at hn; cases hn
    · rw [hr t ht] at hn; cases hn
  exact ⟨v, (vertex_ok_stage P ev v).2 ⟨avs, h1, pts, h2, r, h3, ts, h4, h5⟩⟩

variable (P)

/-- What a fitted track is (C14c `fit_ok_spec`): its helix is a 6-vector at which the cost function
of its cluster was evaluated, with a cost not above the cost at any vertex of the initial simplex
(the initial guess and its six perturbations); `t_inner`/`t_outer` are `closest_t` of the template
points of smallest / largest radius. -/
def FittedTrack (cp : List (Helix.Point α)) (trk : TrackP α) : Prop :=
  ∃ simplex best c f m l, fitInit P.fit.t P.c.delta cp = .ok simplex ∧
    threeTemplatePoints P.fit.t cp = .ok (f, m, l) ∧ best.length = 6 ∧ trk.q = paramsOf P.fit best ∧
    trk.tInner = closestT P.fit.t.h trk.q f P.c.epsilon maxClosestTIters ∧
    trk.tOuter = closestT P.fit.t.h trk.q l P.c.epsilon maxClosestTIters ∧
    trackCost (ε := FitError) P.fit P.c.epsilon maxClosestTIters cp best = .ok c ∧
    ∀ x ∈ simplex, ∃ cx, trackCost (ε := FitError) P.fit P.c.epsilon maxClosestTIters cp x = .ok cx ∧
      P.fit.n.lt cx c = false

variable {P}

theorem fitOf_ok {Num nan : α → Prop} (F : FitLaws P Num nan) (cp : List (Helix.Point α))
    (trk : TrackP α) (h : fitOf P cp = .ok trk) : FittedTrack P cp trk :=
  AlphaG.C14c.fit_ok_spec F.ord maxSolverIters P.c.epsilon P.c.delta maxClosestTIters P.c.epsilon cp
    (F.trackCostNum cp) F.tolOk trk h

/-- **(c)** When `vertex()` returns `Some(position)` on an event whose space
points are NaN-free:
* the position is what the vertex fit returns (`FittedVertex`: a 3-vector at which
  the cost function of the chosen cluster was evaluated, with cost not above the cost at the four
  vertices of the initial simplex) over a beamline cluster of **at least two** fitted tracks, all of
  which pass the two filters of `find_vertices`;
* every fitted track is the Nelder–Mead fit (`FittedTrack`) of a cluster of **at least 13** space
  points;
* every point of a cluster is one of the event's space points, and every space point is the drift
  lookup of an avalanche returned by `avalanches()` (same `z`). -/
theorem vertex_result_spec {E : α → α → Prop} {Num nan : α → Prop} (H : Laws P E Num nan)
    (ev : Matching.Event α) (pos : α × α × α) (h : vertexOfSignals P ev = .ok (some pos))
    (hpts : ∀ avs pts, stageAvalanches P ev = .ok avs → stagePoints P avs = .ok pts →
      PointsReflexive P pts) :
    ∃ avs pts r ts vf,
      stageAvalanches P ev = .ok avs ∧ stagePoints P avs = .ok pts ∧ stageClusters P pts = .ok r ∧
      stageTracks P pts r.clusters = .ok ts ∧ vertexFitOf P ts = .ok (some vf) ∧
      -- the vertex
      vf.position = pos ∧ FittedVertex P ts vf ∧ 2 ≤ vf.cluster.length ∧
      (∀ i ∈ vf.cluster, i < ts.size ∧ (vertexCtx P ts).keep i = true) ∧
      -- the tracks
      (∀ t ∈ ts, ∃ c ∈ r.clusters, minClusterSize ≤ (clusterPoints pts c).length ∧
        FittedTrack P (clusterPoints pts c) t) ∧
      -- the clusters and the space points
      (∀ c ∈ r.clusters, ∀ q ∈ clusterPoints pts c, ∃ p ∈ pts, q = toHelix p) ∧
      (∀ p ∈ pts, ∃ a ∈ avs, ∃ sp, pointOf P a = .ok sp ∧ p = toHough sp ∧ sp.z = a.z) := by
  obtain ⟨avs, h1, pts, h2, r, h3, ts, h4, h5⟩ := (vertex_ok_stage P ev _).1 h
  obtain ⟨vf, hvf, hpos, hlen, hidx, hfit⟩ := (stageVertex_spec H.fit H.trackEq ts).of_ok h5 pos rfl
  have hrefl := hpts avs pts h1 h2
  refine ⟨avs, pts, r, ts, vf, h1, h2, h3, h4, hvf, hpos, hfit, hlen, hidx, ?_, ?_, ?_⟩
  · intro t ht
    obtain ⟨c, hc, hfc⟩ := (stageTracks_spec H.fit pts r.clusters).of_ok h4 t ht
    obtain ⟨hmin, hin⟩ := (stageClusters_spec H.cluster pts hrefl r h3).2 c hc
    refine ⟨c, hc, ?_, fitOf_ok H.fit _ t hfc⟩
    rw [clusterPoints_length pts c hin]
    exact hmin
  · intro c _ q hq
    obtain ⟨i, _, p, hp, rfl⟩ := mem_clusterPoints pts c q hq
    exact ⟨p, Array.mem_of_getElem? hp, rfl⟩
  · intro p hp
    obtain ⟨a, ha, sp, hsp, rfl⟩ := (stagePoints_spec P avs).of_ok h2 p hp
    exact ⟨a, ha, sp, hsp, rfl, spacePoint_ok_z _ _ _ sp hsp⟩

/-- With C13b: when the deconvolution arithmetic is that of a linearly ordered field (with a square
root that squares back on positive values) and the neighbour factors are the diagonally dominant
ones of the code (`C13b.a_matrix_diag_dominant`), no wire block's pivot fails — site 1 of the
inventory is a pure rounding question, for every block length. -/
theorem pivot_never_fails_exact {K : Type} [Field K] [LinearOrder K] [IsStrictOrderedRing K] (top : K)
    (P : Pipe K) (hd : P.deconv = AlphaG.C13b.exactOps K top)
    (hs : AlphaG.C13b.SqrtOk P.tables.sqrt) (hf : AlphaG.C13b.NeighbourFactorsOk P.tables.factors)
    (r : Nat × Nat) : ¬ PivotFails P r := by
  unfold PivotFails
  rw [hd]
  intro h
  have := AlphaG.C13b.cholesky_pivots_pos top P.tables.sqrt hs P.tables.factors hf (blockLen r)
  rw [h] at this
  cases this

end AlphaG.VertexPipeline
