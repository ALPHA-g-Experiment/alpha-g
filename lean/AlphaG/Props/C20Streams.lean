import AlphaG.Props.C20
/-
C20, stream level — the per-timestamp theorems of `Props/C20.lean` lifted to whole FIFO streams
of the hardware model. Core Lean only.

A *legal hardware stream* is generated from lists of edges per marker interval:

  pre-epoch edges ++ marker 0 ++ interval 1 ++ marker 1 ++ … ++ interval n-1 ++ marker (n-1) ++ tail

(`hwStream pre intervals tail`, `n - 1 = intervals.length`; the tail is interval `n`, which has
no closing marker). An edge *placed* in interval `k` has a tick `T` with `T / 2^23 ∈ {k-1, k, k+1}`
(FIFO arbitration displaces an edge by at most one interval), and the marker counters stay below
`2^23` (the wire counter is 23 bits wide: above that the hardware counter wraps and `hwMarker`
no longer describes it). `hwStream_rows` gives the exact rows of such a stream; the fault
theorems show that dropping or duplicating a marker never produces a wrong time.
-/
namespace AlphaG.Csv

/-- An edge of the hardware model: true tick, channel, edge flag. -/
structure Edge where
  T : Nat
  ch : Nat
  leading : Bool
deriving Repr, DecidableEq

/-- The FIFO word of an edge. -/
def Edge.tsc (e : Edge) : Tsc := hwTsc e.T e.ch e.leading

def edgeEntries (es : List Edge) : List Entry := es.map (fun e => Entry.ts e.tsc)

/-- The stream after marker `k-1`: the edges placed in interval `k`, marker `k`, …; the last list
(`tail`) has no closing marker. -/
def hwFrom (k : Nat) : List (List Edge) → List Edge → List Entry
  | [], tail => edgeEntries tail
  | es :: rest, tail => edgeEntries es ++ Entry.marker (hwMarker k) :: hwFrom (k + 1) rest tail

/-- A hardware stream: pre-epoch edges, marker 0, then interval 1, marker 1, …, tail. -/
def hwStream (pre : List Edge) (intervals : List (List Edge)) (tail : List Edge) : List Entry :=
  edgeEntries pre ++ Entry.marker (hwMarker 0) :: hwFrom 1 intervals tail

/-- An edge together with the interval it was placed in and whether that interval is closed by a
marker (everything but the tail). -/
structure PlacedEdge where
  edge : Edge
  interval : Nat
  enclosed : Bool
deriving Repr, DecidableEq

/-- The edges after marker 0 in stream order, with their placement. -/
def placedFrom (k : Nat) : List (List Edge) → List Edge → List PlacedEdge
  | [], tail => tail.map (fun e => ⟨e, k, false⟩)
  | es :: rest, tail => es.map (fun e => ⟨e, k, true⟩) ++ placedFrom (k + 1) rest tail

/-- Displacement bound: the tick belongs to interval `k - 1`, `k` or `k + 1`. -/
def Near (e : Edge) (k : Nat) : Prop :=
  e.T / 2 ^ 23 + 1 = k ∨ e.T / 2 ^ 23 = k ∨ e.T / 2 ^ 23 = k + 1

instance (e : Edge) (k : Nat) : Decidable (Near e k) := by unfold Near; infer_instance

/-- Legality of a generated stream: every edge is displaced by at most one interval from where
its tick belongs (pre-epoch edges sit in interval 0) and the marker counters `0 … intervals.length`
stay below `2^23`. -/
structure Legal (pre : List Edge) (intervals : List (List Edge)) (tail : List Edge) : Prop where
  pre : ∀ e ∈ pre, Near e 0
  placed : ∀ p ∈ placedFrom 1 intervals tail, Near p.edge p.interval
  counters : intervals.length < 2 ^ 23

instance (pre : List Edge) (ivs : List (List Edge)) (tail : List Edge) :
    Decidable (Legal pre ivs tail) :=
  decidable_of_iff ((∀ e ∈ pre, Near e 0) ∧ (∀ p ∈ placedFrom 1 ivs tail, Near p.edge p.interval)
      ∧ ivs.length < 2 ^ 23)
    ⟨fun ⟨a, b, c⟩ => ⟨a, b, c⟩, fun ⟨a, b, c⟩ => ⟨a, b, c⟩⟩

/-- The row the CSV must contain for a placed edge: its channel and edge flag, and the true time
exactly when the edge sits in its own interval and that interval is enclosed by two markers. -/
def expRow (p : PlacedEdge) : CbRow :=
  { channel := p.edge.ch, leading := p.edge.leading,
    time := if p.enclosed = true ∧ p.edge.T / 2 ^ 23 = p.interval then some (trueTime p.edge.T)
            else none }

/-- One row per edge placed after marker 0, in stream order. -/
def expectedRows (intervals : List (List Edge)) (tail : List Edge) : List CbRow :=
  (placedFrom 1 intervals tail).map expRow

/-- The edges after marker 0, in stream order. -/
def postEdges (intervals : List (List Edge)) (tail : List Edge) : List Edge :=
  intervals.flatten ++ tail

theorem placedFrom_edges (k : Nat) (ivs : List (List Edge)) (tail : List Edge) :
    (placedFrom k ivs tail).map (·.edge) = postEdges ivs tail := by
  induction ivs generalizing k with
  | nil => simp [placedFrom, postEdges, Function.comp_def]
  | cons es rest ih =>
    simp [placedFrom, ih, postEdges, Function.comp_def]

theorem edgeEntries_eq (es : List Edge) : edgeEntries es = (es.map Edge.tsc).map Entry.ts :=
  (List.map_map ..).symm

theorem rowsGo_ts (prev : Option Marker) (pend ts : List Tsc) (rest : List Entry) :
    rowsGo prev pend (ts.map Entry.ts ++ rest) = rowsGo prev (pend ++ ts) rest := by
  induction ts generalizing pend with
  | nil => simp
  | cons t ts ih => rw [List.map_cons, List.cons_append, rowsGo, ih, List.append_assoc]; rfl

theorem edgeEntries_not_epoch0 (es : List Edge) : ∀ e ∈ edgeEntries es, isEpoch0 e = false :=
  List.forall_mem_map.2 fun _ _ => rfl

theorem boardRows_epoch (pre : List Edge) (rest : List Entry) :
    boardRows true (edgeEntries pre ++ Entry.marker (hwMarker 0) :: rest)
      = .ok (rowsGo (some (hwMarker 0)) [] rest) :=
  boardRows_append_epoch0 (edgeEntries_not_epoch0 pre) rfl rest

theorem cbtime_placed (e : Edge) (a : Nat) (hn : Near e (a + 1)) :
    chronoboxTime e.tsc (some (hwMarker a)) (some (hwMarker (a + 1)))
      = if e.T / 2 ^ 23 = a + 1 then some (trueTime e.T) else none := by
  unfold Near at hn
  rw [Edge.tsc, cbtime_hw]
  by_cases h : e.T / 2 ^ 23 = a + 1
  · rw [if_pos h, if_pos ⟨rfl, by rw [h]⟩, epoch_time _ _ h]
  · rw [if_neg h, if_neg (by omega)]

theorem rowFor_enclosed (e : Edge) (a : Nat) (hn : Near e (a + 1)) :
    rowFor (some (hwMarker a)) (some (hwMarker (a + 1))) e.tsc = expRow ⟨e, a + 1, true⟩ := by
  unfold rowFor expRow
  rw [cbtime_placed e a hn]
  simp [Edge.tsc, hwTsc]

theorem rowFor_open (e : Edge) (k : Nat) (prev : Option Marker) :
    rowFor prev none e.tsc = expRow ⟨e, k, false⟩ := by
  unfold rowFor expRow
  rw [cbtime_open]
  simp [Edge.tsc, hwTsc]

theorem rowsGo_hwFrom (a : Nat) (ivs : List (List Edge)) (tail : List Edge)
    (hl : ∀ p ∈ placedFrom (a + 1) ivs tail, Near p.edge p.interval) :
    rowsGo (some (hwMarker a)) [] (hwFrom (a + 1) ivs tail)
      = (placedFrom (a + 1) ivs tail).map expRow := by
  induction ivs generalizing a with
  | nil =>
    rw [hwFrom, edgeEntries_eq, ← List.append_nil (List.map Entry.ts _), rowsGo_ts, rowsGo,
      placedFrom, List.nil_append, List.map_map, List.map_map]
    exact List.map_congr_left fun e _ => rowFor_open e _ _
  | cons es rest ih =>
    rw [placedFrom, List.forall_mem_append] at hl
    rw [hwFrom, edgeEntries_eq, rowsGo_ts, rowsGo, ih (a + 1) hl.2, placedFrom, List.nil_append,
      List.map_append, List.map_map, List.map_map]
    congr 1
    exact List.map_congr_left fun e he => rowFor_enclosed e a (hl.1 _ (List.mem_map_of_mem he))

/-- **Rows of a legal stream.** The program writes exactly one row per edge after marker 0, in
stream order, with its channel and edge flag; the time is the true time of the edge exactly when
the edge sits in its own marker interval and is enclosed by two markers, and empty otherwise
(displaced edges, the unclosed tail). Pre-epoch edges give no row. -/
theorem hwStream_rows (pre : List Edge) (ivs : List (List Edge)) (tail : List Edge)
    (hl : Legal pre ivs tail) :
    boardRows true (hwStream pre ivs tail) = .ok (expectedRows ivs tail) := by
  unfold hwStream expectedRows
  rw [boardRows_epoch]
  exact congrArg _ (rowsGo_hwFrom 0 ivs tail hl.placed)

theorem marker_mem_edges {m : Marker} {es : List Edge} {rest : List Entry} :
    Entry.marker m ∈ edgeEntries es ++ rest ↔ Entry.marker m ∈ rest := by
  simp [edgeEntries]

theorem hwFrom_counters (k : Nat) (ivs : List (List Edge)) (tail : List Edge) (m : Marker)
    (h : Entry.marker m ∈ hwFrom k ivs tail) : k ≤ m.counter ∧ m.counter < k + ivs.length := by
  induction ivs generalizing k with
  | nil => simp [hwFrom, edgeEntries] at h
  | cons es rest ih =>
    rw [hwFrom, marker_mem_edges, List.mem_cons, Entry.marker.injEq] at h
    rcases h with rfl | h
    · simp only [hwMarker, List.length_cons]; omega
    · have := ih (k + 1) h
      simp only [List.length_cons]; omega

/-- The counters of a legal stream are the consecutive numbers `0 … intervals.length`, all below
`2^23`, i.e. representable in the 23-bit wire field (so `hwMarker` is the hardware's marker). -/
theorem hwStream_counters (pre : List Edge) (ivs : List (List Edge)) (tail : List Edge)
    (hl : Legal pre ivs tail) (m : Marker) (h : Entry.marker m ∈ hwStream pre ivs tail) :
    m.counter < 2 ^ 23 := by
  have hc := hl.counters
  rw [hwStream, marker_mem_edges, List.mem_cons, Entry.marker.injEq] at h
  rcases h with rfl | h
  · simp [hwMarker]
  · have := hwFrom_counters 1 ivs tail m h
    omega

/-- Row-by-row relation "right channel, right edge flag, and any reported time is the true time"
between the CSV rows and the edges they belong to (same length, same order). -/
def RowsNeverWrong : List CbRow → List Edge → Prop
  | [], [] => True
  | r :: rs, e :: es =>
    (r.channel = e.ch ∧ r.leading = e.leading ∧ ∀ t, r.time = some t → t = trueTime e.T)
      ∧ RowsNeverWrong rs es
  | _, _ => False

theorem RowsNeverWrong.append {r1 r2 : List CbRow} {e1 e2 : List Edge}
    (h1 : RowsNeverWrong r1 e1) (h2 : RowsNeverWrong r2 e2) :
    RowsNeverWrong (r1 ++ r2) (e1 ++ e2) := by
  fun_induction RowsNeverWrong r1 e1 with
  | case1 => exact h2
  | case2 r rs e es ih => exact ⟨h1.1, ih h1.2⟩
  | case3 => exact h1.elim

/-- Indexed reading of `RowsNeverWrong`. -/
theorem RowsNeverWrong.index {rows : List CbRow} {es : List Edge} (h : RowsNeverWrong rows es) :
    rows.length = es.length ∧
    ∀ i (h1 : i < rows.length) (h2 : i < es.length),
      rows[i].channel = es[i].ch ∧ rows[i].leading = es[i].leading ∧
      ∀ t, rows[i].time = some t → t = trueTime es[i].T := by
  fun_induction RowsNeverWrong rows es with
  | case1 => exact ⟨rfl, fun i h1 => absurd h1 (Nat.not_lt_zero i)⟩
  | case2 r rs e es ih =>
    obtain ⟨hl, hi⟩ := ih h.2
    refine ⟨by simp [hl], fun i h1 h2 => ?_⟩
    cases i with
    | zero => exact h.1
    | succ i => exact hi i (Nat.lt_of_succ_lt_succ h1) (Nat.lt_of_succ_lt_succ h2)
  | case3 => exact h.elim

theorem rowsNeverWrong_map {α : Type} (l : List α) (row : α → CbRow) (edge : α → Edge)
    (h : ∀ x ∈ l, (row x).channel = (edge x).ch ∧ (row x).leading = (edge x).leading
      ∧ ∀ t, (row x).time = some t → t = trueTime (edge x).T) :
    RowsNeverWrong (l.map row) (l.map edge) := by
  induction l with
  | nil => exact trivial
  | cons x xs ih =>
    exact ⟨h x List.mem_cons_self, ih fun y hy => h y (List.mem_cons_of_mem _ hy)⟩

/-- **Never a wrong time, stream level.** For every legal hardware stream the program succeeds
and its rows correspond one to one, in order, to the edges after marker 0, each with the right
channel and edge flag, and every reported time is the true time of that edge. -/
theorem stream_never_wrong (pre : List Edge) (ivs : List (List Edge)) (tail : List Edge)
    (hl : Legal pre ivs tail) :
    ∃ rows, boardRows true (hwStream pre ivs tail) = .ok rows
      ∧ RowsNeverWrong rows (postEdges ivs tail) := by
  refine ⟨_, hwStream_rows pre ivs tail hl, ?_⟩
  rw [← placedFrom_edges 1 ivs tail]
  refine rowsNeverWrong_map _ expRow (·.edge) fun p _ => ⟨rfl, rfl, fun t ht => ?_⟩
  simp only [expRow] at ht
  split at ht
  · injection ht with ht; exact ht.symm
  · cases ht

/-- **Empty exactly when stated.** Row `i` of a legal stream has an empty time iff its edge is
not enclosed by two markers (it sits in the tail) or lies on the wrong side of a marker (it was
displaced out of the interval its tick belongs to). -/
theorem stream_empty_iff (pre : List Edge) (ivs : List (List Edge)) (tail : List Edge)
    (hl : Legal pre ivs tail) (rows : List CbRow)
    (h : boardRows true (hwStream pre ivs tail) = .ok rows) :
    rows.length = (placedFrom 1 ivs tail).length ∧
    ∀ i (h1 : i < rows.length) (h2 : i < (placedFrom 1 ivs tail).length),
      (rows[i].time = none ↔
        ((placedFrom 1 ivs tail)[i].enclosed = false ∨
          (placedFrom 1 ivs tail)[i].edge.T / 2 ^ 23 ≠ (placedFrom 1 ivs tail)[i].interval)) := by
  rw [hwStream_rows pre ivs tail hl] at h
  injection h with h
  subst h
  refine ⟨by simp [expectedRows], ?_⟩
  intro i h1 h2
  simp [expectedRows, expRow, Decidable.imp_iff_not_or]

/-! ### Faulty streams: a general invariant

Items of a stream carry a sort key: an edge placed in interval `k` has key `2k`, marker `c` has
key `2c+1`. A legal stream has non-decreasing keys, and so has every stream obtained from it by
dropping markers (any number of them). On every such stream the program never reports a wrong
time: an edge placed in interval `k` ends up between markers `a < k ≤ b`, the epoch logic refuses
unless `b = a + 1`, which forces `k = b`, and then the parity of the tick's half-wrap number
decides. A duplicated marker needs none of this: it closes an empty chunk, and the rows do not
change at all (`boardRows_dupMarker`). -/

inductive Item where
  | edge (e : Edge) (k : Nat)
  | mark (c : Nat)
deriving Repr, DecidableEq

def Item.key : Item → Nat
  | .edge _ k => 2 * k
  | .mark c => 2 * c + 1

def Item.entry : Item → Entry
  | .edge e _ => Entry.ts e.tsc
  | .mark c => Entry.marker (hwMarker c)

def Item.ok : Item → Prop
  | .edge e k => Near e k
  | .mark _ => True

def itemEdges : List Item → List Edge
  | [] => []
  | .edge e _ :: rest => e :: itemEdges rest
  | .mark _ :: rest => itemEdges rest

/-- A stream with non-decreasing keys, all at least `lo`, whose edges obey the displacement bound. -/
structure Ordered (lo : Nat) (its : List Item) : Prop where
  sorted : its.Pairwise (fun x y => x.key ≤ y.key)
  ok : ∀ x ∈ its, x.ok
  lo : ∀ x ∈ its, lo ≤ x.key

/-- `Ordered` as a chain: the head is above the bound and bounds the rest. -/
theorem ordered_cons {lo : Nat} {x : Item} {its : List Item} :
    Ordered lo (x :: its) ↔ lo ≤ x.key ∧ x.ok ∧ Ordered x.key its := by
  constructor
  · rintro ⟨hs, hok, hlo⟩
    rw [List.pairwise_cons] at hs
    rw [List.forall_mem_cons] at hok hlo
    exact ⟨hlo.1, hok.1, hs.2, hok.2, hs.1⟩
  · rintro ⟨hx, hxo, hs, hok, hlo⟩
    exact ⟨List.pairwise_cons.2 ⟨hlo, hs⟩, List.forall_mem_cons.2 ⟨hxo, hok⟩,
      List.forall_mem_cons.2 ⟨hx, fun y hy => Nat.le_trans hx (hlo y hy)⟩⟩

theorem Ordered.mono {lo lo' : Nat} {its : List Item} (h : Ordered lo its) (hle : lo' ≤ lo) :
    Ordered lo' its :=
  ⟨h.sorted, h.ok, fun x hx => Nat.le_trans hle (h.lo x hx)⟩

theorem Ordered.sublist {lo : Nat} {its its' : List Item} (h : Ordered lo its)
    (hs : its'.Sublist its) : Ordered lo its' :=
  ⟨h.sorted.sublist hs, fun x hx => h.ok x (hs.subset hx), fun x hx => h.lo x (hs.subset hx)⟩

/-- **The enclosing markers decide.** An edge placed in interval `k` (displaced by at most one
interval) that ends up between markers `a < k ≤ b` is never given a wrong time: a time needs
`b = a + 1`, hence `k = b`, and then the parity of the tick's half-wrap number singles out `b`. -/
theorem never_wrong_between {e : Edge} {k a b t : Nat} (hn : Near e k) (hak : a < k) (hkb : k ≤ b)
    (h : chronoboxTime e.tsc (some (hwMarker a)) (some (hwMarker b)) = some t) :
    t = trueTime e.T := by
  obtain ⟨hab, hpar, rfl⟩ := cbtime_hw_some h
  unfold Near at hn
  exact epoch_time _ _ (by omega)

/-- The row loop after marker `a` on an ordered stream bounded below by `lo`, with pending edges
placed in intervals `k`, `a < k` and `2k ≤ lo`: each pending edge ends up between `a` and a marker
`b ≥ k`; the epoch logic refuses unless `b = a + 1`, which forces `k = b`. -/
theorem rowsGo_ordered (a lo : Nat) (pend : List (Edge × Nat)) (its : List Item)
    (ha : 2 * a + 1 ≤ lo) (hp : ∀ p ∈ pend, Near p.1 p.2 ∧ a < p.2 ∧ 2 * p.2 ≤ lo)
    (ho : Ordered lo its) :
    RowsNeverWrong (rowsGo (some (hwMarker a)) (pend.map (·.1.tsc)) (its.map Item.entry))
      (pend.map (·.1) ++ itemEdges its) := by
  induction its generalizing a lo pend with
  | nil =>
    rw [List.map_nil, rowsGo, itemEdges, List.append_nil, List.map_map]
    exact rowsNeverWrong_map _ _ _ fun p _ =>
      ⟨rfl, rfl, fun t ht => by simp [rowFor, cbtime_open] at ht⟩
  | cons x rest ih =>
    obtain ⟨hlo, hx, ho⟩ := ordered_cons.1 ho
    cases x with
    | edge e k =>
      have hlo : lo ≤ 2 * k := hlo
      have hp' : ∀ p ∈ pend ++ [(e, k)], Near p.1 p.2 ∧ a < p.2 ∧ 2 * p.2 ≤ 2 * k :=
        List.forall_mem_append.2
          ⟨fun p h => ⟨(hp p h).1, (hp p h).2.1, Nat.le_trans (hp p h).2.2 hlo⟩,
            List.forall_mem_singleton.2 ⟨hx, by omega, Nat.le_refl _⟩⟩
      simpa [rowsGo, itemEdges, Item.entry] using ih a (2 * k) _ (by omega) hp' ho
    | mark b =>
      have hlo : lo ≤ 2 * b + 1 := hlo
      rw [List.map_cons, Item.entry, rowsGo, itemEdges, List.map_map]
      refine (rowsNeverWrong_map _ _ _ fun p hp' => ⟨rfl, rfl, fun t ht => ?_⟩).append
        (ih b (2 * b + 1) [] (Nat.le_refl _) nofun ho)
      obtain ⟨h1, h2, h3⟩ := hp p hp'
      exact never_wrong_between h1 h2 (by omega) ht

/-- The general form of the stream theorems: whatever ordered item list follows marker 0 (a legal
stream, or one with markers dropped), the rows are never wrong. -/
theorem rows_after_epoch (pre : List Edge) (its : List Item) (ho : Ordered 1 its)
    (rows : List CbRow)
    (h : boardRows true (edgeEntries pre ++ Entry.marker (hwMarker 0) :: its.map Item.entry)
      = .ok rows) : RowsNeverWrong rows (itemEdges its) := by
  rw [boardRows_epoch] at h
  injection h with h
  subst h
  exact rowsGo_ordered 0 1 [] its (Nat.le_refl _) nofun ho

theorem Ordered.edges {k : Nat} {its : List Item} (h : Ordered (2 * k) its) {es : List Edge}
    (hn : ∀ e ∈ es, Near e k) : Ordered (2 * k) (es.map (Item.edge · k) ++ its) := by
  induction es with
  | nil => exact h
  | cons e es ih =>
    exact ordered_cons.2 ⟨Nat.le_refl _, hn e List.mem_cons_self,
      ih fun x hx => hn x (List.mem_cons_of_mem _ hx)⟩

theorem itemEdges_edges (es : List Edge) (k : Nat) (its : List Item) :
    itemEdges (es.map (Item.edge · k) ++ its) = es ++ itemEdges its := by
  induction es with
  | nil => rfl
  | cons e es ih => simp [itemEdges, ih]

theorem map_entry_edges (es : List Edge) (k : Nat) (its : List Item) :
    (es.map (Item.edge · k) ++ its).map Item.entry = edgeEntries es ++ its.map Item.entry := by
  simp [edgeEntries, Item.entry]

theorem hwFrom_ordered (k : Nat) (ivs : List (List Edge)) (tail : List Edge)
    (hl : ∀ p ∈ placedFrom k ivs tail, Near p.edge p.interval) :
    ∃ its, Ordered (2 * k) its ∧ its.map Item.entry = hwFrom k ivs tail
      ∧ itemEdges its = postEdges ivs tail := by
  induction ivs generalizing k with
  | nil =>
    have hn : ∀ e ∈ tail, Near e k := fun e he => hl _ (List.mem_map_of_mem he)
    exact ⟨tail.map (Item.edge · k) ++ [], Ordered.edges ⟨.nil, nofun, nofun⟩ hn,
      by rw [map_entry_edges, hwFrom, List.map_nil, List.append_nil],
      by rw [itemEdges_edges, itemEdges, postEdges, List.flatten_nil, List.nil_append,
        List.append_nil]⟩
  | cons es rest ih =>
    rw [placedFrom, List.forall_mem_append] at hl
    have hn : ∀ e ∈ es, Near e k := fun e he => hl.1 _ (List.mem_map_of_mem he)
    obtain ⟨its, ho, he, hed⟩ := ih (k + 1) hl.2
    refine ⟨es.map (Item.edge · k) ++ Item.mark k :: its,
      Ordered.edges (ordered_cons (x := .mark k) |>.2
        ⟨Nat.le_succ _, trivial, ho.mono (by simp only [Item.key]; omega)⟩) hn,
      ?_, ?_⟩
    · rw [map_entry_edges, List.map_cons, he]; rfl
    · rw [itemEdges_edges, itemEdges, hed]; simp [postEdges]

/-- The stream with (the first occurrence of) marker `j` removed. -/
def dropMarker (j : Nat) : List Entry → List Entry
  | [] => []
  | .ts t :: rest => .ts t :: dropMarker j rest
  | .marker m :: rest => if m.counter = j then rest else .marker m :: dropMarker j rest

/-- The stream with (the first occurrence of) marker `j` emitted twice. -/
def dupMarker (j : Nat) : List Entry → List Entry
  | [] => []
  | .ts t :: rest => .ts t :: dupMarker j rest
  | .marker m :: rest =>
    if m.counter = j then .marker m :: .marker m :: rest else .marker m :: dupMarker j rest

/-- A repeated marker closes an empty chunk: the row loop does not see it. -/
theorem rowsGo_dupMarker (j : Nat) (prev : Option Marker) (pend : List Tsc) (s : List Entry) :
    rowsGo prev pend (dupMarker j s) = rowsGo prev pend s := by
  fun_induction dupMarker j s generalizing prev pend with
  | case1 => rfl
  | case2 t rest ih => exact ih prev _
  | case3 m rest h => simp [rowsGo]
  | case4 m rest h ih => rw [rowsGo, rowsGo, ih]

/-- **Duplicated marker, any stream.** Emitting a marker twice changes nothing at all: same
verdict, same rows (whether or not the stream is a hardware stream). -/
theorem boardRows_dupMarker (j : Nat) (s : List Entry) :
    boardRows true (dupMarker j s) = boardRows true s := by
  induction s with
  | nil => rfl
  | cons e s ih =>
    cases e with
    | ts t => rw [dupMarker, boardRows_skip rfl, boardRows_skip rfl, ih]
    | marker m =>
      rw [dupMarker]
      by_cases h0 : m.counter = 0
      · split
        · simp [boardRows_epoch0 h0, rowsGo]
        · rw [boardRows_epoch0 h0, boardRows_epoch0 h0, rowsGo_dupMarker]
      · have hm : isEpoch0 (.marker m) = false := by simpa [isEpoch0] using h0
        split
        · rw [boardRows_skip hm, boardRows_skip hm]
        · rw [boardRows_skip hm, boardRows_skip hm, ih]

theorem dropMarker_edges (j : Nat) (es : List Edge) (rest : List Entry) :
    dropMarker j (edgeEntries es ++ rest) = edgeEntries es ++ dropMarker j rest := by
  induction es with
  | nil => rfl
  | cons e es ih =>
    show dropMarker j (Entry.ts e.tsc :: (edgeEntries es ++ rest)) = _
    rw [dropMarker, ih]; rfl

theorem dropMarker_epoch {j : Nat} (hj : j ≠ 0) (pre : List Edge) (rest : List Entry) :
    dropMarker j (edgeEntries pre ++ Entry.marker (hwMarker 0) :: rest)
      = edgeEntries pre ++ Entry.marker (hwMarker 0) :: dropMarker j rest := by
  rw [dropMarker_edges, dropMarker, if_neg (c := (hwMarker 0).counter = j) (Ne.symm hj)]

theorem dropMarker_items (j : Nat) (its : List Item) :
    ∃ its', its'.Sublist its ∧ itemEdges its' = itemEdges its
      ∧ dropMarker j (its.map Item.entry) = its'.map Item.entry := by
  induction its with
  | nil => exact ⟨[], .slnil, rfl, rfl⟩
  | cons x xs ih =>
    obtain ⟨its', hs, he, hd⟩ := ih
    cases x with
    | edge e k =>
      exact ⟨.edge e k :: its', hs.cons_cons _, by simp [itemEdges, he],
        by simp [dropMarker, Item.entry, hd]⟩
    | mark c =>
      by_cases h : c = j
      · exact ⟨xs, List.sublist_cons_self _ _, rfl, by simp [dropMarker, Item.entry, hwMarker, h]⟩
      · exact ⟨.mark c :: its', hs.cons_cons _, by simp [itemEdges, he],
          by simp [dropMarker, Item.entry, hwMarker, h, hd]⟩

/-- Dropping marker 0 leaves no epoch: the program fails (no CSV). -/
theorem dropped_epoch_fails (pre : List Edge) (ivs : List (List Edge)) (tail : List Edge) :
    boardRows true (dropMarker 0 (hwStream pre ivs tail)) = .err .missingEpoch0 := by
  rw [hwStream, dropMarker_edges, dropMarker, if_pos (show (hwMarker 0).counter = 0 from rfl)]
  refine fails_closed_no_epoch0 _ fun e he => ?_
  rcases List.mem_append.1 he with he | he
  · exact edgeEntries_not_epoch0 pre e he
  · cases e with
    | ts t => rfl
    | marker m =>
      have := hwFrom_counters 1 ivs tail m he
      simp only [isEpoch0, beq_eq_false_iff_ne, ne_eq]
      omega

/-- **Dropped marker.** In a legal stream with marker `j` removed (any `j`), whenever the
program produces rows they are one per edge after marker 0, in order, with the right channel and
edge flag, and every reported time is still the true time of its edge (the two intervals merged
by the missing marker are enclosed by non-consecutive counters and get no time). For `j = 0` the
program fails instead (`dropped_epoch_fails`). -/
theorem dropped_marker_never_wrong (pre : List Edge) (ivs : List (List Edge)) (tail : List Edge)
    (hl : Legal pre ivs tail) (j : Nat) (rows : List CbRow)
    (h : boardRows true (dropMarker j (hwStream pre ivs tail)) = .ok rows) :
    RowsNeverWrong rows (postEdges ivs tail) := by
  cases j with
  | zero => rw [dropped_epoch_fails] at h; cases h
  | succ j =>
    obtain ⟨its, ho, he, hed⟩ := hwFrom_ordered 1 ivs tail hl.placed
    obtain ⟨its', hs, hed', hd⟩ := dropMarker_items (j + 1) its
    rw [hwStream, dropMarker_epoch (Nat.succ_ne_zero j), ← he, hd] at h
    rw [← hed, ← hed']
    exact rows_after_epoch pre its' ((ho.mono (by omega)).sublist hs) rows h

/-- **Duplicated marker.** In a legal stream with marker `j` emitted twice (any `j`), the
program's rows are one per edge after marker 0, in order, with the right channel and edge flag,
and every reported time is still the true time of its edge. -/
theorem duplicated_marker_never_wrong (pre : List Edge) (ivs : List (List Edge))
    (tail : List Edge) (hl : Legal pre ivs tail) (j : Nat) (rows : List CbRow)
    (h : boardRows true (dupMarker j (hwStream pre ivs tail)) = .ok rows) :
    RowsNeverWrong rows (postEdges ivs tail) := by
  obtain ⟨rows', h', hr⟩ := stream_never_wrong pre ivs tail hl
  rw [boardRows_dupMarker, h'] at h
  injection h with h
  exact h ▸ hr

/-- The duplicated-marker stream is always accepted (the statement above is not vacuous). -/
theorem duplicated_marker_accepted (pre : List Edge) (ivs : List (List Edge)) (tail : List Edge)
    (j : Nat) : ∃ rows, boardRows true (dupMarker j (hwStream pre ivs tail)) = .ok rows := by
  rw [boardRows_dupMarker]
  exact ⟨_, boardRows_epoch pre _⟩

/-- So is the dropped-marker stream for `j ≥ 1`. -/
theorem dropped_marker_accepted (pre : List Edge) (ivs : List (List Edge)) (tail : List Edge)
    (j : Nat) (hj : 1 ≤ j) :
    ∃ rows, boardRows true (dropMarker j (hwStream pre ivs tail)) = .ok rows := by
  rw [hwStream, dropMarker_epoch (by omega)]
  exact ⟨_, boardRows_epoch pre _⟩

/-- Non-vacuity, on two full wraps = four half wraps (markers 0 … 3): a pre-epoch edge, intervals
1–4 (4 is the open tail), one edge displaced late (tick of interval 1 placed in interval 2), one
displaced early (tick of interval 4 placed in interval 3), edges right at a marker tick. -/
def exPre : List Edge := [⟨5, 3, true⟩]
def exIntervals : List (List Edge) :=
  [ [⟨2 ^ 23, 1, true⟩, ⟨2 ^ 23 + 10, 7, false⟩],              -- interval 1, in place
    [⟨2 ^ 24 - 1, 2, false⟩, ⟨2 ^ 24 + 7, 4, true⟩],            -- interval 2: one late, one in place
    [⟨3 * 2 ^ 23 + 9, 5, true⟩, ⟨2 ^ 25, 6, false⟩] ]           -- interval 3: in place, one early
def exTail : List Edge := [⟨2 ^ 25 + 100, 8, true⟩]            -- interval 4, no closing marker

example : Legal exPre exIntervals exTail := by decide

example : boardRows true (hwStream exPre exIntervals exTail)
    = .ok [ ⟨1, true, some (2 ^ 23)⟩, ⟨7, false, some (2 ^ 23 + 10)⟩,
            ⟨2, false, none⟩, ⟨4, true, some (2 ^ 24 + 6)⟩,
            ⟨5, true, some (3 * 2 ^ 23 + 8)⟩, ⟨6, false, none⟩,
            ⟨8, true, none⟩ ] := by decide

example : expectedRows exIntervals exTail
    = [ ⟨1, true, some (2 ^ 23)⟩, ⟨7, false, some (2 ^ 23 + 10)⟩,
        ⟨2, false, none⟩, ⟨4, true, some (2 ^ 24 + 6)⟩,
        ⟨5, true, some (3 * 2 ^ 23 + 8)⟩, ⟨6, false, none⟩,
        ⟨8, true, none⟩ ] := by decide

/-- Marker 1 dropped: intervals 1 and 2 merge between counters 0 and 2 and lose their times;
marker 2 duplicated: nothing changes (no edge sits between the copies). -/
example : boardRows true (dropMarker 1 (hwStream exPre exIntervals exTail))
    = .ok [ ⟨1, true, none⟩, ⟨7, false, none⟩, ⟨2, false, none⟩, ⟨4, true, none⟩,
            ⟨5, true, some (3 * 2 ^ 23 + 8)⟩, ⟨6, false, none⟩, ⟨8, true, none⟩ ] := by decide

example : boardRows true (dupMarker 2 (hwStream exPre exIntervals exTail))
    = boardRows true (hwStream exPre exIntervals exTail) := by decide

end AlphaG.Csv
