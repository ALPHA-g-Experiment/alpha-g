import AlphaG.Lemmas.DeconvBasic
import AlphaG.Lemmas.DeconvScale
import AlphaG.Lemmas.DeconvPulse
/-
C17 — deconvolution is non-negative, scale-covariant and equals its plain definition.

The properties are stated here and derived, in a few lines each, from the general lemmas of
`Lemmas/DeconvBasic.lean`, `DeconvScale.lean`, `DeconvPulse.lean` (the pad and wire settings are the
grids `3 5 7 12` and `0 1 3 12` put into the statements about `lsDeconvWith`). The model
(`Model/Deconv.lean`) is written once over a carrier `Ops α` without laws; `fast_eq_naive` and
`deconv_shape` hold for every carrier — hence for `f64` bit for bit, NaN and ±∞ included —,
`deconv_scale` for every carrier and every map satisfying the homogeneity laws `Homog`,
`deconv_nonneg` / `isolated_pulse` / `ls_first_strict_min` for the exact instance `fieldOps top`
over any linearly ordered field (`top` stands for `+∞`).
`ResponseNeg` (the Rust `assert!`) is a hypothesis; the harness checks it on the real tables.
-/
namespace AlphaG.C17
open AlphaG AlphaG.Deconv Lean Grind Std

variable {α : Type}

/-- C17 (equals its plain definition): the production loop with the window skip
`i += last_positive + 1` and the one-sample-at-a-time sweep return the same residual vector,
the same sum of squared residuals and the same input — for every carrier, every waveform, every
response, every `(offset, look_ahead)`; no law of `α` is used, the panics agree too. -/
theorem fast_eq_naive (o : Ops α) (signal resp : List α) (off la : Nat) :
    nnGreedyFast o signal resp off la = nnGreedyNaive o signal resp off la :=
  Deconv.fast_eq_naive o signal resp off la

/-- … hence the pad deconvolution is, bit for bit, the plain greedy deconvolution minimising the
squared residual over the same `3..=5 × 7..=12` grid (and likewise the per-wire sweep). -/
theorem pad_eq_plain (o : Ops α) (padResp signal : List α) :
    padDeconv o padResp signal = lsDeconvWith o false signal padResp 3 5 7 12 :=
  lsDeconvWith_bool o true signal padResp 3 5 7 12

theorem wire_eq_plain (o : Ops α) (wireResp signal : List α) :
    wireDeconv o wireResp signal = lsDeconvWith o false signal wireResp 0 1 3 12 :=
  lsDeconvWith_bool o true signal wireResp 0 1 3 12

/-- C17 (shape): one output sample per input sample (single sweep; least-squares sweep: the
empty vector only when no residual is `< +∞`, see `ls_nonempty`), one output channel per input
channel of a wire block, on the same wires, every channel as long as the longest input channel
(`y_matrix` zero padding). Every carrier. -/
theorem deconv_shape (o : Ops α) :
    (∀ (b : Bool) (signal resp : List α) (off la : Nat) (res : List α) (sum : α) (inp : List α),
      nnGreedy o b signal resp off la = .ok (res, sum, inp) →
        res.length = signal.length ∧ inp.length = signal.length)
    ∧ (∀ (b : Bool) (signal resp : List α) (offLo offHi laLo laHi : Nat) (inp : List α),
      lsDeconvWith o b signal resp offLo offHi laLo laHi = .ok inp →
        inp = [] ∨ inp.length = signal.length)
    ∧ (∀ (cholSolve : Nat → Nat → (Nat → Nat → α) → (Nat → Nat → α)) (wireResp : List α)
        (block out : List (Nat × List α)),
      wireRangeDeconv o cholSolve wireResp block = .ok out →
        out.length = block.length ∧ out.map Prod.fst = block.map Prod.fst
          ∧ ∀ p ∈ out, p.2 = [] ∨ p.2.length = maxLen (block.map Prod.snd))
    ∧ (∀ (signals : List (List α)) (row column : Nat),
      (signals.getD column []).length ≤ row → yMatrix o signals row column = o.zero) := by
  refine ⟨@deconv_shape_nn _ o, @deconv_shape_ls _ o, fun _ _ _ _ h => ?_, yMatrix_padding o⟩
  obtain ⟨h1, h2, h3⟩ := wireRangeDeconv_ok o h
  refine ⟨h1, h2, fun p hp => ?_⟩
  obtain ⟨_, hl, hs⟩ := h3 p hp
  exact hl ▸ deconv_shape_ls o hs

/-- The sweep's result has the input's length as soon as the first grid point's residual is
`< +∞` (in `f64`: not NaN, not `+∞` — outside that the Rust function returns `Vec::new()`). -/
theorem ls_nonempty (o : Ops α) (b : Bool) (signal resp : List α) (offLo offHi laLo laHi : Nat)
    (res : List α) (r : α) (i0 inp : List α) (hoff : offLo ≤ offHi) (hla : laLo ≤ laHi)
    (h0 : nnGreedy o b signal resp offLo laLo = .ok (res, r, i0)) (hr : o.lt r o.inf = true)
    (h : lsDeconvWith o b signal resp offLo offHi laLo laHi = .ok inp) :
    inp.length = signal.length :=
  Deconv.ls_nonempty o b signal resp offLo offHi laLo laHi res r i0 inp hoff hla h0 hr h

section field
variable {F : Type} [Field F] [LE F] [LT F] [LawfulOrderLT F] [IsLinearOrder F] [OrderedRing F]
  [DecidableLT F] [DecidableLE F]

/-- C17 (non-negative), exact arithmetic: if the response is negative on every window of the grid
(`ResponseNeg`, the Rust `assert!`) the sweep does not panic and every recovered amplitude is
`≥ 0`. Instances: pads (`3..=5 × 7..=12`), wires (`0..=1 × 3..=12`); for a whole wire block that was
deconvolved (`= .ok out`, any `cholSolve`) the amplitudes are `≥ 0` by `deconv_nonneg_block`. -/
theorem deconv_nonneg (top : F) (b : Bool) (signal resp : List F) (offLo offHi laLo laHi : Nat)
    (hla : 0 < laLo)
    (hresp : ∀ off la, offLo ≤ off → off ≤ offHi → laLo ≤ la → la ≤ laHi →
      ResponseNeg (fieldOps top) resp off la) :
    ∃ inp, lsDeconvWith (fieldOps top) b signal resp offLo offHi laLo laHi = .ok inp
      ∧ ∀ x ∈ inp, 0 ≤ x :=
  have ⟨inp, h⟩ := lsDeconvWith_total (fieldOps top) b signal resp offLo offHi laLo laHi hla hresp
  ⟨inp, h, deconv_nonneg_ls_of_ok top h⟩

theorem deconv_nonneg_single (top : F) (b : Bool) (signal resp : List F) (off la : Nat)
    (res : List F) (sum : F) (inp : List F) (hla : 0 < la)
    (hresp : ResponseNeg (fieldOps top) resp off la)
    (h : nnGreedy (fieldOps top) b signal resp off la = .ok (res, sum, inp)) : ∀ x ∈ inp, 0 ≤ x :=
  Deconv.deconv_nonneg top b signal resp off la res sum inp hla hresp h

theorem deconv_nonneg_pad (top : F) (padResp signal : List F)
    (hresp : ∀ off la, 3 ≤ off → off ≤ 5 → 7 ≤ la → la ≤ 12 →
      ResponseNeg (fieldOps top) padResp off la) :
    ∃ inp, padDeconv (fieldOps top) padResp signal = .ok inp ∧ ∀ x ∈ inp, 0 ≤ x :=
  deconv_nonneg top true signal padResp 3 5 7 12 (by omega) hresp

theorem deconv_nonneg_wire (top : F) (wireResp signal : List F)
    (hresp : ∀ off la, 0 ≤ off → off ≤ 1 → 3 ≤ la → la ≤ 12 →
      ResponseNeg (fieldOps top) wireResp off la) :
    ∃ inp, wireDeconv (fieldOps top) wireResp signal = .ok inp ∧ ∀ x ∈ inp, 0 ≤ x :=
  deconv_nonneg top true signal wireResp 0 1 3 12 (by omega) hresp

theorem deconv_nonneg_block (top : F) (cholSolve : Nat → Nat → (Nat → Nat → F) → (Nat → Nat → F))
    (wireResp : List F) (block out : List (Nat × List F))
    (h : wireRangeDeconv (fieldOps top) cholSolve wireResp block = .ok out) :
    ∀ p ∈ out, ∀ x ∈ p.2, 0 ≤ x := fun p hp =>
  have ⟨_, _, hs⟩ := (wireRangeDeconv_ok _ h).2.2 p hp
  deconv_nonneg_ls_of_ok top hs

/-- C17 (first strict minimum): when every grid point's run is ok, the sweep returns the input
of the first run whose residual sum is minimal (and `< +∞`); the empty vector when no residual
sum is `< +∞`. -/
theorem ls_first_strict_min (top : F) (b : Bool) (signal resp : List F)
    (offLo offHi laLo laHi : Nat) (runs : List (List F × F × List F))
    (hruns : (grid offLo offHi laLo laHi).map
      (fun p => nnGreedy (fieldOps top) b signal resp p.1 p.2) = runs.map .ok) :
    ∃ best, lsDeconvWith (fieldOps top) b signal resp offLo offHi laLo laHi = .ok best ∧
      (((∀ t ∈ runs, ¬ t.2.1 < top) ∧ best = []) ∨
        ∃ j, ∃ hj : j < runs.length, runs[j].2.1 < top
          ∧ (∀ i, ∀ hi : i < runs.length, runs[j].2.1 ≤ runs[i].2.1)
          ∧ (∀ i, ∀ hi : i < j, runs[j].2.1 < runs[i].2.1)
          ∧ best = runs[j].2.2) :=
  Deconv.ls_first_strict_min top b signal resp offLo offHi laLo laHi runs hruns

/-- C17 (isolated pulse), exact arithmetic, the wire settings: the waveform `a·R` shifted to
sample `k` (truncated at the end of the waveform), `a > 0`, response negative on its first 13
samples, `k + 3 ≤ n` (weaker than the property's `k + 18 ≤ n`, see `isolated_pulse_18`), is
recovered as `a` at `k` and `0` elsewhere: offset 0 / look-ahead 3 is tried first, reaches
residual 0, and only a strictly smaller residual would replace it. -/
theorem isolated_pulse (top : F) (htop : 0 < top) (n k : Nat) (a : F) (resp : List F)
    (ha : 0 < a) (h13 : 13 ≤ resp.length) (hneg : ∀ r ∈ resp.take 13, r < 0) (hk : k + 3 ≤ n) :
    wireDeconv (fieldOps top) resp (pulse n k a resp)
      = .ok ((List.range n).map fun j => if j = k then a else 0) :=
  Deconv.isolated_pulse top htop n k a resp ha h13 hneg hk

theorem isolated_pulse_18 (top : F) (htop : 0 < top) (n k : Nat) (a : F) (resp : List F)
    (ha : 0 < a) (h13 : 13 ≤ resp.length) (hneg : ∀ r ∈ resp.take 13, r < 0) (hk : k + 18 ≤ n) :
    wireDeconv (fieldOps top) resp (pulse n k a resp)
      = .ok ((List.range n).map fun j => if j = k then a else 0) :=
  Deconv.isolated_pulse top htop n k a resp ha h13 hneg (by omega)

/-- … wherever the wire sits on the ring: a block of one wire `w` (1×1 system `A = [1]`, for
which the Cholesky solve is the identity) gives the same spike on wire `w`, for every `w`. -/
theorem isolated_pulse_any_wire (top : F) (htop : 0 < top) (n k : Nat) (a : F) (resp : List F)
    (ha : 0 < a) (h13 : 13 ≤ resp.length) (hneg : ∀ r ∈ resp.take 13, r < 0) (hk : k + 3 ≤ n)
    (cholSolve : Nat → Nat → (Nat → Nat → F) → (Nat → Nat → F))
    (hc : ∀ i y r c, cholSolve i 1 y r c = y r c) (w : Nat) :
    wireRangeDeconv (fieldOps top) cholSolve resp [(w, pulse n k a resp)]
      = .ok [(w, (List.range n).map fun j => if j = k then a else 0)] := by
  rw [wireRangeDeconv_single _ cholSolve hc,
    Deconv.isolated_pulse top htop n k a resp ha h13 hneg hk]
  rfl

/-- Over an ordered field every `c > 0` satisfies all homogeneity laws that do not mention `+∞`. -/
theorem scale_laws_of_pos (top c : F) (hc : 0 < c) :
    HomogCore (fieldOps top) (c * ·) (c * c * ·) :=
  homog_of_pos top c hc

/-- … so the whole sweep is covariant under `c > 0` as long as the residual sums stay `< top`. -/
theorem deconv_scale_field (top c : F) (hc : 0 < c) (b : Bool) (signal resp : List F)
    (offLo offHi laLo laHi : Nat)
    (h1 : ∀ p ∈ grid offLo offHi laLo laHi, ∀ res r inp,
      nnGreedy (fieldOps top) b signal resp p.1 p.2 = .ok (res, r, inp) → r < top)
    (h2 : ∀ p ∈ grid offLo offHi laLo laHi, ∀ res r inp,
      nnGreedy (fieldOps top) b (signal.map (c * ·)) resp p.1 p.2 = .ok (res, r, inp) → r < top) :
    lsDeconvWith (fieldOps top) b (signal.map (c * ·)) resp offLo offHi laLo laHi
      = omap (List.map (c * ·)) (lsDeconvWith (fieldOps top) b signal resp offLo offHi laLo laHi) :=
  deconv_scale_field_first top c hc b signal resp offLo offHi laLo laHi
    (fun p hp => h1 p (List.mem_of_head? hp)) (fun p hp => h2 p (List.mem_of_head? hp))

end field

/-- C17 (scale covariance), any carrier: if `σ` (on samples) and `σ2` (on squared residuals)
satisfy the homogeneity laws `Homog` — `σ 0 = 0`, `σa − (σv)·r = σ(a − v·r)`, `σa / r = σ(a/r)`,
`min (σa) (σb) = σ (min a b)`, `0 ≤ σa ⇔ 0 ≤ a`, `(σa)·(σa) = σ2 (a·a)`, `σ2 a + σ2 b = σ2 (a+b)`,
`σ2 sumInit = sumInit`, `σ2 a < σ2 b ⇔ a < b`, `σ2 ∞ = ∞` — then deconvolving the mapped waveform
gives the mapped amplitudes at the same indices (lists are mapped elementwise) with the same
panics. Multiplication by `2^k` in IEEE-754 satisfies the laws absent overflow/underflow
(assumption; tested bit for bit on the implementation for `k ∈ −8..=8`). -/
theorem deconv_scale {o : Ops α} {σ σ2 : α → α} (h : Homog o σ σ2) (b : Bool)
    (signal resp : List α) (offLo offHi laLo laHi : Nat) :
    lsDeconvWith o b (signal.map σ) resp offLo offHi laLo laHi
      = omap (List.map σ) (lsDeconvWith o b signal resp offLo offHi laLo laHi) :=
  Deconv.deconv_scale h b signal resp offLo offHi laLo laHi

theorem deconv_scale_single {o : Ops α} {σ σ2 : α → α} (h : HomogCore o σ σ2) (b : Bool)
    (signal resp : List α) (off la : Nat) :
    nnGreedy o b (signal.map σ) resp off la
      = omap (mapTriple σ σ2) (nnGreedy o b signal resp off la) :=
  deconv_scale_nn h b signal resp off la

theorem deconv_scale_pad {o : Ops α} {σ σ2 : α → α} (h : Homog o σ σ2) (padResp signal : List α) :
    padDeconv o padResp (signal.map σ) = omap (List.map σ) (padDeconv o padResp signal) :=
  Deconv.deconv_scale h true signal padResp 3 5 7 12

/-- Whole wire block, provided the (uninterpreted) Cholesky solve commutes with `σ` entrywise. -/
theorem deconv_scale_block {o : Ops α} {σ σ2 : α → α} (h : Homog o σ σ2)
    (cholSolve : Nat → Nat → (Nat → Nat → α) → (Nat → Nat → α))
    (hc : ∀ i j y r c, cholSolve i j (fun r c => σ (y r c)) r c = σ (cholSolve i j y r c))
    (wireResp : List α) (block : List (Nat × List α)) :
    wireRangeDeconv o cholSolve wireResp (mapBlock σ block)
      = omap (mapBlock σ) (wireRangeDeconv o cholSolve wireResp block) :=
  deconv_scale_wires h cholSolve hc wireResp block

/-- The laws are satisfiable including `σ2 ∞ = ∞`: adjoin `+∞` to any carrier (`liftOps`). -/
theorem scale_laws_with_infinity {o : Ops α} {σ σ2 : α → α} (h : HomogCore o σ σ2) :
    Homog (liftOps o) (Option.map σ) (Option.map σ2) :=
  homog_lift h

/-! Non-vacuity (concrete inputs satisfying the hypotheses; more in the `Lemmas` files). -/
example : HomogCore (fieldOps (1000 : Rat)) (2 * ·) (2 * 2 * ·) := scale_laws_of_pos 1000 2 (by decide)
example : ResponseNeg (fieldOps (1000 : Rat)) [-2, -1, -1] 0 2 := by decide +kernel

end AlphaG.C17
