import AlphaG.Model.Csv
import AlphaG.Lemmas.Bytes
/-
C19 — vertex/scaler CSVs: one row per main event, in run order, with unwrapped time.
Row logic only (the binaries themselves are tied end to end by the harness: generated MIDAS
files → real executables → CSV → diff with the driver's `scanRows`). Core Lean only.
-/
namespace AlphaG.Csv

theorem scanFrom_serial (s : ScanState) (es : List Ev) :
    (scanFrom s es).map (·.serial) = es.map (·.serial) := by
  induction es generalizing s with
  | nil => rfl
  | cons e es ih => simp [scanFrom, rowOf, ih]

/-- One row per main event, in file order, carrying the event's serial number; events of other
types get no row. -/
theorem rows_one_per_main (files : List (List FileEvent)) :
    (rowsOfRun files).map (·.serial) = (files.flatMap mainEvents).map (·.serial) :=
  scanFrom_serial _ _

theorem rows_length (files : List (List FileEvent)) :
    (rowsOfRun files).length = (files.flatMap mainEvents).length := by
  have := congrArg List.length (rows_one_per_main files)
  simpa using this

theorem scanFrom_cum_isSome (s : ScanState) (es : List Ev) :
    (scanFrom s es).map (·.cum.isSome) = es.map (·.ts.isSome) := by
  induction es generalizing s with
  | nil => rfl
  | cons e es ih =>
    simp only [scanFrom, List.map_cons, ih, rowOf]
    cases e.ts <;> simp

/-- Events that cannot be decoded get a row with an empty time, decodable ones a time. -/
theorem undecodable_row_empty (files : List (List FileEvent)) :
    (rowsOfRun files).map (·.cum.isSome) = (files.flatMap mainEvents).map (·.ts.isSome) :=
  scanFrom_cum_isSome _ _

/-- Events of other types contribute nothing: only id 1 is kept. -/
theorem other_events_no_row (evs : List FileEvent) (h : ∀ e ∈ evs, e.eventId ≠ 1) :
    mainEvents evs = [] := by
  unfold mainEvents
  rw [List.filter_eq_nil_iff.2]
  · rfl
  · intro e he; simpa using h e he

/-- Decoded timestamps of the main events, in order. -/
def decodedTs (es : List Ev) : List Nat := es.filterMap (·.ts)

/-- Cumulative counts of the decodable rows, in order. -/
def decodedCums (rows : List Row) : List Nat := rows.filterMap (·.cum)

/-- The specification: starting after a (real or virtual) previous timestamp `p` at count `c`,
every decodable event adds the 32-bit-wrapped difference to its predecessor. -/
def cumsAfter (p c : Nat) : List Nat → List Nat
  | [] => []
  | d :: ds => (c + wsub32 d p) :: cumsAfter d (c + wsub32 d p) ds

theorem wsub32_self (p : Nat) : wsub32 p p = 0 := by
  rw [wsub32, Nat.add_sub_cancel_left, Nat.mod_self]

/-- One step of the scan: an undecodable event repeats the previous timestamp (`0` at the start)
and adds nothing; the very first event adds nothing either. -/
theorem next_eq (s : ScanState) (e : Ev) :
    next s e = { previous := some (e.ts.getD (s.previous.getD 0)),
                 cumulative := s.cumulative + match s.previous, e.ts with
                   | some p, some d => wsub32 d p
                   | _, _ => 0 } := by
  cases hp : s.previous <;> cases ht : e.ts <;> simp [next, current, delta, hp, ht, wsub32_self]

theorem scanFrom_some (p c : Nat) (es : List Ev) :
    decodedCums (scanFrom { previous := some p, cumulative := c } es)
      = cumsAfter p c (decodedTs es) := by
  induction es generalizing p c with
  | nil => rfl
  | cons e es ih =>
    cases hts : e.ts with
    | none => simpa [scanFrom, decodedCums, decodedTs, rowOf, next_eq, hts] using ih p c
    | some d =>
      simpa [scanFrom, decodedCums, decodedTs, rowOf, next_eq, hts, cumsAfter]
        using ih d (c + wsub32 d p)

/-- The scan runs as if a timestamp had been seen before the first event: that event's own one,
or `0` when it is undecodable (the `unwrap_or(0)` seed). -/
theorem scanRows_cons (e : Ev) (es : List Ev) :
    scanRows (e :: es) = scanFrom { previous := some (e.ts.getD 0), cumulative := 0 } (e :: es) := by
  cases h : e.ts <;> simp [scanRows, scanFrom, rowOf, next_eq, h, wsub32_self]

/-- **Time differences.** The cumulative counts of the decodable events are `c₀` for the first
one and then grow by exactly the 32-bit-wrapped difference between consecutive decodable
timestamps: for any two decodable events the difference of their counts (hence of `trg_time`
× 62.5 MHz) is the sum of the wrapped differences between them. The offset `c₀` is `0` when
the run starts with a decodable event and the first decoded timestamp (mod 2^32) when it
starts with undecodable ones (the scan seeds `previous = 0`); differences are unaffected. -/
theorem time_diff (es : List Ev) :
    decodedCums (scanRows es) =
      match decodedTs es with
      | [] => []
      | d :: ds =>
        (if (es.head?.bind (·.ts)).isSome then 0 else wsub32 d 0)
          :: cumsAfter d (if (es.head?.bind (·.ts)).isSome then 0 else wsub32 d 0) ds := by
  cases es with
  | nil => rfl
  | cons e es =>
    rw [scanRows_cons, scanFrom_some]
    cases hts : e.ts with
    | none =>
      simp only [decodedTs, List.filterMap_cons, hts, List.head?_cons, Option.bind_some, Option.isSome_none,
        Option.getD_none, Bool.false_eq_true, if_false]
      cases es.filterMap (·.ts) <;> simp [cumsAfter]
    | some d =>
      simp only [decodedTs, List.filterMap_cons, hts, List.head?_cons, Option.bind_some, Option.isSome_some,
        Option.getD_some, if_true, cumsAfter, wsub32_self]

theorem cumsAfter_step (p c d : Nat) (ds : List Nat) :
    cumsAfter p c (d :: ds) = (c + wsub32 d p) :: cumsAfter d (c + wsub32 d p) ds := rfl

theorem insertByT0_perm (f : FileHead) (l : List FileHead) : (insertByT0 f l).Perm (f :: l) := by
  fun_induction insertByT0 f l with
  | case1 => exact .refl _
  | case2 g gs h => exact .refl _
  | case3 g gs h ih => exact (List.Perm.cons g ih).trans (List.Perm.swap f g gs)

theorem sortByT0_perm (l : List FileHead) : (sortByT0 l).Perm l := by
  induction l with
  | nil => exact List.Perm.refl _
  | cons f fs ih => exact (insertByT0_perm f _).trans (List.Perm.cons f ih)

theorem insertByT0_sorted (f : FileHead) (l : List FileHead)
    (h : l.Pairwise (fun a b => a.t0 ≤ b.t0)) :
    (insertByT0 f l).Pairwise (fun a b => a.t0 ≤ b.t0) := by
  fun_induction insertByT0 f l with
  | case1 => exact List.pairwise_singleton _ _
  | case2 g gs hle =>
    have hg := (List.pairwise_cons.1 h).1
    exact List.pairwise_cons.2
      ⟨List.forall_mem_cons.2 ⟨hle, fun x hx => Nat.le_trans hle (hg x hx)⟩, h⟩
  | case3 g gs hnle ih =>
    have ⟨hg, hgs⟩ := List.pairwise_cons.1 h
    refine List.pairwise_cons.2 ⟨fun x hx => ?_, ih hgs⟩
    rcases List.mem_cons.1 ((insertByT0_perm f gs).mem_iff.1 hx) with rfl | hx
    · omega
    · exact hg x hx

theorem sortByT0_sorted (l : List FileHead) :
    (sortByT0 l).Pairwise (fun a b => a.t0 ≤ b.t0) := by
  induction l with
  | nil => simp [sortByT0]
  | cons f fs ih => exact insertByT0_sorted f _ ih

/-- On a sorted list the adjacent-duplicate check finds every duplicate. -/
theorem hasAdjacentDup_false_iff (l : List FileHead)
    (h : l.Pairwise (fun a b => a.t0 ≤ b.t0)) :
    hasAdjacentDup l = false ↔ (l.map (·.t0)).Nodup := by
  induction l with
  | nil => simp [hasAdjacentDup]
  | cons a l ih =>
    cases l with
    | nil => simp [hasAdjacentDup]
    | cons b rest =>
      have ha := List.pairwise_cons.1 h
      have hb := List.pairwise_cons.1 ha.2
      have hab : a.t0 ≤ b.t0 := ha.1 b List.mem_cons_self
      simp only [hasAdjacentDup, Bool.or_eq_false_iff, beq_eq_false_iff_ne, ne_eq, ih ha.2,
        List.map_cons, List.nodup_cons (a := a.t0), List.mem_cons, List.mem_map, not_or, not_exists,
        not_and]
      refine and_congr_left fun _ => ⟨fun hne => ⟨hne, fun x hx heq => ?_⟩, fun hn => hn.1⟩
      have := hb.1 x hx
      omega

theorem sortByT0_dup_iff (files : List FileHead) :
    hasAdjacentDup (sortByT0 files) = false ↔ (files.map (·.t0)).Nodup := by
  rw [hasAdjacentDup_false_iff _ (sortByT0_sorted files)]
  exact ((sortByT0_perm files).map _).nodup_iff

theorem sortByT0_strict {files : List FileHead} (h : (files.map (·.t0)).Nodup) :
    (sortByT0 files).Pairwise (fun a b => a.t0 < b.t0) :=
  strict_of_sorted (sortByT0_sorted files) (((sortByT0_perm files).map (·.t0)).nodup_iff.2 h)

/-- By `sorted_unique` and `sortByT0_strict`, with distinct start times `sortByT0 files` is the only
strictly sorted permutation of `files`: the processing order does not depend on which sorted
permutation `sort_unstable_by_key` returns, nor (this theorem) on the order of the arguments. -/
theorem sortByT0_eq_of_perm {l₁ l₂ : List FileHead} (hp : l₁.Perm l₂)
    (h : (l₁.map (·.t0)).Nodup) : sortByT0 l₁ = sortByT0 l₂ :=
  sorted_unique ((sortByT0_perm _).trans (hp.trans (sortByT0_perm _).symm))
    (sortByT0_strict h) (sortByT0_strict ((hp.map _).nodup_iff.1 h))

theorem find?_none_perm {p : FileHead → Bool} {l₁ l₂ : List FileHead} (hp : l₁.Perm l₂) :
    l₁.find? p = none ↔ l₂.find? p = none := by
  simp only [List.find?_eq_none, hp.mem_iff]

/-- Exactly when `sort_run_files` succeeds, and with what; every clause but the last is about the
set of files, and so is the last one under the clause before it. -/
theorem sortRunFiles_ok_iff (files : List FileHead) (v : Nat × List Nat) :
    sortRunFiles files = .ok v ↔
      (∀ f ∈ files, f.extKnown = true) ∧ files ≠ [] ∧ (∀ f ∈ files, f.run = v.1)
        ∧ (files.map (·.t0)).Nodup ∧ v.2 = (sortByT0 files).map (·.id) := by
  unfold sortRunFiles sortRunFilesWith
  split
  · rename_i f he
    have hf := List.find?_some he
    exact ⟨nofun, fun h => by simp [h.1 f (List.mem_of_find?_eq_some he)] at hf⟩
  · rename_i he
    have hext : ∀ f ∈ files, f.extKnown = true := by simpa using he
    cases files with
    | nil => exact ⟨nofun, fun h => absurd rfl h.2.1⟩
    | cons first rest =>
      simp only [List.head?_cons]
      split
      · rename_i f hr
        have hf := List.find?_some hr
        refine ⟨nofun, fun h => ?_⟩
        simp [h.2.2.1 f (List.mem_of_find?_eq_some hr), h.2.2.1 first List.mem_cons_self] at hf
      · rename_i hr
        have hrun : ∀ f ∈ first :: rest, f.run = first.run := by simpa using hr
        rw [← sortByT0_dup_iff]
        split
        · rename_i hd
          exact ⟨nofun, fun h => by simp [h.2.2.2.1] at hd⟩
        · rename_i hd
          rw [ok_eq_ok]
          constructor
          · rintro rfl
            exact ⟨hext, nofun, hrun, by simpa using hd, rfl⟩
          · rintro ⟨-, -, h1, -, h2⟩
            exact Prod.ext (h1 first List.mem_cons_self) h2.symm

/-- With at least one file the function never panics. -/
theorem sortRunFiles_total (files : List FileHead) (hne : files ≠ []) :
    ∀ s, sortRunFiles files ≠ .panic s := by
  intro s
  obtain ⟨first, rest, rfl⟩ := List.exists_cons_of_ne_nil hne
  unfold sortRunFiles sortRunFilesWith
  split
  · nofun
  · simp only [List.head?_cons]
    split
    · nofun
    · split <;> nofun

/-- **Argument order.** For two orderings of the same set of files, `sort_run_files` either
succeeds on both with the same run number and the same processing order, or refuses both. -/
theorem arg_order_irrelevant (l₁ l₂ : List FileHead) (hp : l₁.Perm l₂) (v : Nat × List Nat) :
    sortRunFiles l₁ = .ok v ↔ sortRunFiles l₂ = .ok v := by
  have hnil : l₁ = [] ↔ l₂ = [] :=
    ⟨fun h => (h ▸ hp).symm.eq_nil, fun h => (h ▸ hp).eq_nil⟩
  simp only [sortRunFiles_ok_iff, hp.mem_iff, ne_eq, hnil, (hp.map (·.t0)).nodup_iff]
  refine and_congr_right fun _ => and_congr_right fun _ => and_congr_right fun _ =>
    and_congr_right fun hnd => ?_
  rw [sortByT0_eq_of_perm hp ((hp.map _).nodup_iff.2 hnd)]

/-- Files of different runs are refused. -/
theorem refused_mixed_runs (files : List FileHead) (f g : FileHead) (hf : f ∈ files)
    (hg : g ∈ files) (hrun : f.run ≠ g.run) (v : Nat × List Nat) : sortRunFiles files ≠ .ok v := by
  intro h
  rw [sortRunFiles_ok_iff] at h
  exact hrun ((h.2.2.1 f hf).trans (h.2.2.1 g hg).symm)

/-- An unknown file extension is refused. -/
theorem refused_unknown_extension (files : List FileHead) (f : FileHead) (hf : f ∈ files)
    (hext : f.extKnown = false) (v : Nat × List Nat) : sortRunFiles files ≠ .ok v := by
  intro h
  rw [sortRunFiles_ok_iff] at h
  have := h.1 f hf
  simp [hext] at this

/-- Two files with the same initial timestamp are refused. -/
theorem refused_duplicate_t0 (files : List FileHead)
    (hdup : ¬ (files.map (·.t0)).Nodup) (v : Nat × List Nat) : sortRunFiles files ≠ .ok v :=
  fun h => hdup ((sortRunFiles_ok_iff files v).1 h).2.2.2.1

example : scanRows [⟨7, none⟩, ⟨8, some 4294967290⟩, ⟨9, none⟩, ⟨10, some 5⟩, ⟨11, some 5⟩]
    = [⟨7, none⟩, ⟨8, some 4294967290⟩, ⟨9, none⟩, ⟨10, some 4294967301⟩, ⟨11, some 4294967301⟩] := by
  decide

example : sortRunFiles [⟨0, true, 5, 30⟩, ⟨1, true, 5, 10⟩, ⟨2, true, 5, 20⟩] = .ok (5, [1, 2, 0]) := by
  decide

end AlphaG.Csv
