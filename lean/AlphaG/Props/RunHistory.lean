import AlphaG.Spec.RunHistory
import AlphaG.Lemmas.MapsArms
/-
The generated `match run_number` dispatches (regenerated from the source text on every run)
select, for every run number up to `Spec.horizon` and for the simulation, exactly what the
hand-written record of the documented run history (`AlphaG/Spec/RunHistory.lean`) prescribes.

Proof: both sides are piecewise constant with breakpoints among the thresholds of the arms and
the steps of the record (`dispatch_congr`, `at_congr`), so agreement at the breakpoints
(`decide`) is agreement everywhere (`agree_of_breakpoints`).
-/
namespace AlphaG.RunHistory
open AlphaG.Generated AlphaG.Maps AlphaG.Spec

/-- `N..` thresholds of the arms. -/
def thresholds : Arms → List Nat
  | [] => []
  | (.ge n, _) :: rest => n :: thresholds rest
  | (_, _) :: rest => thresholds rest

theorem ge_mem_thresholds (arms : Arms) (n : Nat) (x : ArmRhs) (h : (.ge n, x) ∈ arms) :
    n ∈ thresholds arms := by
  induction arms with
  | nil => cases h
  | cons a rest ih =>
    obtain ⟨p, y⟩ := a
    rcases List.mem_cons.1 h with e | h'
    · cases e; simp [thresholds]
    · cases p <;> simp [thresholds, ih h']

theorem dispatch_congr (arms : Arms) (r r' : Nat)
    (hmax : r = simulationRun ↔ r' = simulationRun)
    (h : ∀ n ∈ thresholds arms, (n ≤ r ↔ n ≤ r')) : dispatch arms r = dispatch arms r' := by
  refine (dispatch_congr_pat arms r r' fun a ha => ?_).1
  obtain ⟨p, x⟩ := a
  cases p with
  | max => rw [patMatches, patMatches, Bool.eq_iff_iff, beq_iff_eq, beq_iff_eq]; exact hmax
  | ge n => simp only [patMatches, h n (ge_mem_thresholds arms n x ha)]
  | wild => rfl

theorem foldl_steps_congr (steps : List (Nat × Sel)) (r r' : Nat) (acc : Sel)
    (h : ∀ n ∈ steps.map (·.1), (n ≤ r ↔ n ≤ r')) :
    steps.foldl (fun acc s => if s.1 ≤ r then s.2 else acc) acc
      = steps.foldl (fun acc s => if s.1 ≤ r' then s.2 else acc) acc := by
  induction steps generalizing acc with
  | nil => rfl
  | cons s rest ih =>
    simp only [List.foldl_cons, h s.1 (by simp)]
    exact ih _ fun n hn => h n (List.mem_cons_of_mem _ hn)

theorem at_congr (hist : History) (r r' : Nat) (h1 : r ≠ simulationRun) (h2 : r' ≠ simulationRun)
    (h : ∀ n ∈ hist.steps.map (·.1), (n ≤ r ↔ n ≤ r')) : hist.at r = hist.at r' := by
  simp only [History.at, h1, h2, if_false]
  exact foldl_steps_congr _ _ _ _ h

/-- Largest element of `ts` that is `≤ r` (0 if none). -/
def floorTo (ts : List Nat) (r : Nat) : Nat :=
  ts.foldl (fun acc t => if t ≤ r ∧ acc < t then t else acc) 0

/-- `floorTo` is `Maps.rep`, folded from the left. -/
theorem foldl_floor (ts : List Nat) (r acc : Nat) :
    ts.foldl (fun acc t => if t ≤ r ∧ acc < t then t else acc) acc = max acc (rep ts r) := by
  induction ts generalizing acc with
  | nil => simp [rep]
  | cons t rest ih =>
    simp only [List.foldl_cons, ih, rep]
    split <;> split <;> omega

theorem floorTo_spec (ts : List Nat) (r : Nat) :
    floorTo ts r ≤ r ∧ (∀ n ∈ ts, (n ≤ floorTo ts r ↔ n ≤ r)) ∧ floorTo ts r ∈ 0 :: ts := by
  have e : floorTo ts r = rep ts r := by rw [floorTo, foldl_floor, Nat.zero_max]
  rw [e]
  exact ⟨rep_le ts r, fun n hn => (sameSide_rep ts r n hn).symm, rep_mem ts r⟩

/-- Two functions of the run number that only look at comparisons with `ts` agree on all run
numbers up to `H` as soon as they agree at the breakpoints `0 :: ts` up to `H`. -/
theorem agree_of_breakpoints (f g : Nat → Sel) (ts : List Nat) (H : Nat) (hH : H < simulationRun)
    (hf : ∀ r r', r ≠ simulationRun → r' ≠ simulationRun → (∀ n ∈ ts, (n ≤ r ↔ n ≤ r')) → f r = f r')
    (hg : ∀ r r', r ≠ simulationRun → r' ≠ simulationRun → (∀ n ∈ ts, (n ≤ r ↔ n ≤ r')) → g r = g r')
    (hfin : ∀ t ∈ 0 :: ts, t ≤ H → f t = g t) : ∀ r, r ≤ H → f r = g r := by
  intro r hr
  obtain ⟨a, b, c⟩ := floorTo_spec ts r
  have h1 : r ≠ simulationRun := by omega
  have h2 : floorTo ts r ≠ simulationRun := by omega
  have hb : ∀ n ∈ ts, (n ≤ r ↔ n ≤ floorTo ts r) := fun n hn => (b n hn).symm
  rw [hf r _ h1 h2 hb, hg r _ h1 h2 hb]
  exact hfin _ c (by omega)

/-- Breakpoints of one comparison. -/
def breaks (arms : Arms) (hist : History) : List Nat := thresholds arms ++ hist.steps.map (·.1)

theorem agrees {H : Nat} (hH : H < simulationRun) (sel : Option ArmRhs → Sel) (arms : Arms)
    (hist : History)
    (hfin : ∀ t ∈ 0 :: breaks arms hist, t ≤ H → sel (dispatch arms t) = hist.at t) :
    ∀ r, r ≤ H → sel (dispatch arms r) = hist.at r := by
  refine agree_of_breakpoints _ _ (breaks arms hist) H hH ?_ ?_ hfin
  · intro r r' h1 h2 h
    rw [dispatch_congr arms r r' (by simp [h1, h2]) (fun n hn => h n (by simp [breaks, hn]))]
  · intro r r' h1 h2 h
    exact at_congr hist r r' h1 h2 (fun n hn => h n (by simp only [breaks, List.mem_append]; exact Or.inr hn))

theorem horizon_lt : horizon < simulationRun := by decide

/-- Wire gain: for every run up to the horizon the generated
`match run_number` of `try_wire_gain` selects the documented data file. -/
theorem wire_gain_history : ∀ r, r ≤ horizon → genCal wireGainArms wireGainMaps r = Spec.wireGain.at r :=
  agrees horizon_lt (resolveCal _) _ _ (by decide +kernel)
theorem wire_gain_simulation : genCal wireGainArms wireGainMaps simulationRun = Spec.wireGain.at simulationRun := by decide +kernel

theorem wire_baseline_history : ∀ r, r ≤ horizon → genCal wireBaselineArms wireBaselineMaps r = Spec.wireBaseline.at r :=
  agrees horizon_lt (resolveCal _) _ _ (by decide +kernel)
theorem wire_baseline_simulation :
    genCal wireBaselineArms wireBaselineMaps simulationRun = Spec.wireBaseline.at simulationRun := by decide +kernel

theorem wire_delay_history : ∀ r, r ≤ horizon → genCal wireDelayArms wireDelayMaps r = Spec.wireDelay.at r :=
  agrees horizon_lt (resolveCal _) _ _ (by decide +kernel)
theorem wire_delay_simulation : genCal wireDelayArms wireDelayMaps simulationRun = Spec.wireDelay.at simulationRun := by decide +kernel

theorem pad_baseline_history : ∀ r, r ≤ horizon → genCal padBaselineArms padBaselineMaps r = Spec.padBaseline.at r :=
  agrees horizon_lt (resolveCal _) _ _ (by decide +kernel)
theorem pad_baseline_simulation :
    genCal padBaselineArms padBaselineMaps simulationRun = Spec.padBaseline.at simulationRun := by decide +kernel

theorem pad_gain_history : ∀ r, r ≤ horizon → genCal padGainArms padGainMaps r = Spec.padGain.at r :=
  agrees horizon_lt (resolveCal _) _ _ (by decide +kernel)
theorem pad_gain_simulation : genCal padGainArms padGainMaps simulationRun = Spec.padGain.at simulationRun := by decide +kernel

theorem pad_delay_history : ∀ r, r ≤ horizon → genCal padDelayArms padDelayMaps r = Spec.padDelay.at r :=
  agrees horizon_lt (resolveCal _) _ _ (by decide +kernel)
theorem pad_delay_simulation : genCal padDelayArms padDelayMaps simulationRun = Spec.padDelay.at simulationRun := by decide +kernel

theorem wire_preamp_history :
    ∀ r, r ≤ horizon → genMap preampTables wirePreampArms Spec.wirePreamp r = Spec.wirePreamp.at r :=
  agrees horizon_lt (resolveMap _ _) _ _ (by decide +kernel)
theorem wire_preamp_simulation :
    genMap preampTables wirePreampArms Spec.wirePreamp simulationRun = Spec.wirePreamp.at simulationRun := by decide +kernel

theorem wire_channel_history :
    ∀ r, r ≤ horizon → genMap channelTables wireChannelArms Spec.wireChannel r = Spec.wireChannel.at r :=
  agrees horizon_lt (resolveMap _ _) _ _ (by decide +kernel)
theorem wire_channel_simulation :
    genMap channelTables wireChannelArms Spec.wireChannel simulationRun = Spec.wireChannel.at simulationRun := by decide +kernel

theorem pwb_layout_history :
    ∀ r, r ≤ horizon → genMap pwbTables pwbArms Spec.pwbLayout r = Spec.pwbLayout.at r :=
  agrees horizon_lt (resolveMap _ _) _ _ (by decide +kernel)
theorem pwb_layout_simulation :
    genMap pwbTables pwbArms Spec.pwbLayout simulationRun = Spec.pwbLayout.at simulationRun := by decide +kernel

/-- The PadWing layout of runs from 10418 on is the layout of runs from 4418 on with exactly the
eight documented board replacements (each position held the documented old board). -/
theorem pwb_swaps_10418 :
    ∃ t1 t2, layoutAt 4418 = some t1 ∧ layoutAt 10418 = some t2 ∧ applySwaps t1 pwbSwaps10418 = some t2 :=
  ⟨_, _, rfl, rfl, by decide +kernel⟩

/-- Non-vacuity: the record distinguishes runs on both sides of a documented boundary. -/
example : Spec.wireGain.at 11083 = .file "9277_complete.json" ∧ Spec.wireGain.at 11084 = .file "11186_complete.json"
    ∧ Spec.wireGain.at 9276 = .err ∧ Spec.pwbLayout.at 10417 = .layout 0 ∧ Spec.pwbLayout.at 10418 = .layout 1 := by
  decide

end AlphaG.RunHistory
