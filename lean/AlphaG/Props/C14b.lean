import AlphaG.Lemmas.TrackInit
import Mathlib.Tactic.Ring
import Mathlib.Tactic.FieldSimp
import Mathlib.Tactic.Linarith
import Mathlib.Tactic.Positivity
import Mathlib.Tactic.NormNum
import Mathlib.Tactic.LinearCombination
import Mathlib.Algebra.Order.Field.Basic
import Mathlib.Algebra.Order.Field.Rat
import Mathlib.Algebra.Order.Ring.Abs
import Mathlib.Analysis.Real.Sqrt
/-
C14b — theorems about the initial-guess stage of the track fit and the initial simplex of the vertex
fit (model: AlphaG/Model/TrackInit.lean, tied bit for bit to the Rust code by harness/src/c14b.rs).

Carrier-independent statements (they hold for the `Float` instance of the driver as well, NaN
included): membership of the template points, the exact panic inventory, the shape of the simplex.
Statements over a linearly ordered field `K` (exact arithmetic, no NaN; the transcendental functions
`sin cos atan2 hypot floor` and the literals `π`, `ε`, `0.00025` are arbitrary parameters `Transc K`):

(a) `guard_iff_circle_defined`   the collinearity test is false iff the first two points differ in
                                 the xy plane and `Im w ≠ 0`; `guard_iff_circle_defined_xy`: iff both
                                 complex divisions of `circle_through_three_points` have a non-zero
                                 divisor
(b) `circle_correct`             under the guard the centre is equidistant from the three points,
                                 `r` is that distance and `r > 0`
(c) `three_template_points_members`, `template_extremal`, `template_first_last_rule`,
    `template_panic_iff`, `template_total`, `fit_init_panic_sites`
(d) `initial_simplex_shape`, `perturb_ne`, `initial_simplex_nondegenerate`, `fit_simplex_shape`,
    `vertex_simplex_shape`, `vertexInit_shape`
(e) `no_initial_parameters_iff`, `fit_init_panic_iff`

What is *not* here: anything about `f64` rounding. In `f64` the equivalence (a) fails outside the
physical domain (squares of differences below 1e-162 underflow), see `underflow_cluster` in harness/src/c14b.rs.
-/
namespace AlphaG.C14b
open AlphaG AlphaG.Helix AlphaG.TrackInit

section AnyCarrier
variable {α : Type} (o : TOps α)

/-- **(c), membership.** Whatever the carrier (NaN included), the three points returned by
`three_template_points` are elements of the input. -/
theorem three_template_points_members (pts : List (Point α)) (f m l : Point α)
    (h : threeTemplatePoints o pts = .ok (f, m, l)) : f ∈ pts ∧ m ∈ pts ∧ l ∈ pts := by
  unfold threeTemplatePoints at h
  split at h
  · cases h
  next f' l' hmm =>
    split at h
    · cases h
    next p0 rest =>
      split at h
      next m' hmid =>
        split at h
        · cases h
        · cases h
          exact ⟨(minmaxByKey_mem _ _ _ _ _ hmm).1, (minByFold_mem _ _ _ _ _ hmid).elim (· ▸ List.mem_cons_self)
            (List.mem_cons_of_mem _), (minmaxByKey_mem _ _ _ _ _ hmm).2⟩
      · cases h
      · cases h

/-- **(c), exactly which inputs reach an `unwrap`.** `nan x` stands for "`partial_cmp` fails on `x`"
(hypothesis `hcmp`; for `f64` it is `x.is_nan()`). `three_template_points` panics
* at `into_option().unwrap()` iff the slice is empty;
* at `partial_cmp(..).unwrap()` iff the slice has at least two points and for one of them
  `(p.r - middle_r).abs()` is NaN (`middle_r` from the selected first/last);
and nowhere else (the `unwrap` after `min_by` is dead). -/
theorem template_panic_iff (nan : α → Prop) (hcmp : ∀ a b, o.cmp a b = none ↔ nan a ∨ nan b)
    (pts : List (Point α)) (s : String) :
    threeTemplatePoints o pts = .panic s ↔
      (pts = [] ∧ s = siteMinmax) ∨
      (2 ≤ pts.length ∧ s = sitePartialCmp ∧
        ∃ f l, (minmaxByKey o.h.lt (fun p : Point α => p.r) pts).intoOption = some (f, l) ∧
          ∃ p ∈ pts, nan (devFrom o (midR o f l) p)) := by
  match pts with
  | [] => simp [threeTemplatePoints, minmaxByKey, MinMax.intoOption, eq_comm]
  | p0 :: rest =>
    cases hmm : (minmaxByKey o.h.lt (fun p : Point α => p.r) (p0 :: rest)).intoOption with
    | none => cases (minmaxByKey_none_iff _ _ _).1 hmm
    | some fl =>
      obtain ⟨f, l⟩ := fl
      have hmid : threeTemplatePoints o (p0 :: rest) = .panic s ↔ middleOf o f l p0 rest = .panic s := by
        unfold threeTemplatePoints
        rw [hmm]
        dsimp only
        cases middleOf o f l p0 rest with
        | ok m => simp only [reduceCtorEq, iff_false]; split <;> nofun
        | err e => exact ⟨nofun, nofun⟩
        | panic s' => simp only [Outcome.panic.injEq]
      rw [hmid, middleOf, minByFold_panic_iff (ε := FitError) _ (fun p => nan (devFrom o (midR o f l) p))
        (fun a b => hcmp _ _)]
      simp [and_left_comm]

theorem perturbAt_length (delta : α) (g : List α) (i : Nat) : (perturbAt o delta g i).length = g.length := by
  simp [perturbAt]

/-- **(d)** For a guess of `n` coordinates the simplex has `n + 1` rows of
`n` entries; row 0 is the guess; row `i + 1` is the guess with coordinate `i` replaced by its
perturbation (`0.00025` if it `== 0.0`, else `x * (1 + delta)`) and all other coordinates
untouched. -/
theorem initial_simplex_shape (delta : α) (g : List α) :
    (initialSimplex o delta g).length = g.length + 1 ∧
    (initialSimplex o delta g)[0]? = some g ∧
    (∀ row ∈ initialSimplex o delta g, row.length = g.length) ∧
    ∀ i, i < g.length →
      ∃ row, (initialSimplex o delta g)[i + 1]? = some row ∧
        row[i]? = some (perturbValue o delta (g.getD i o.h.zero)) ∧
        ∀ j, j ≠ i → row[j]? = g[j]? := by
  refine ⟨by simp [initialSimplex], by simp [initialSimplex], ?_, ?_⟩
  · intro row hrow
    simp only [initialSimplex, List.mem_cons, List.mem_map, List.mem_range] at hrow
    rcases hrow with rfl | ⟨i, _, rfl⟩
    · rfl
    · exact perturbAt_length o delta g i
  · intro i hi
    refine ⟨perturbAt o delta g i, by simp [initialSimplex, hi], ?_, ?_⟩
    · simp [perturbAt, hi]
    · intro j hj
      simp [perturbAt, Ne.symm hj]

/-- The track-fit simplex is 7 × 6 and starts with the initial guess. -/
theorem fit_simplex_shape (delta : α) (pts : List (Point α)) (s : List (List α))
    (h : fitInit o delta pts = .ok s) :
    s.length = 7 ∧ (∀ row ∈ s, row.length = 6) ∧
      ∃ f m l, threeTemplatePoints o pts = .ok (f, m, l) ∧ s = initialSimplex o delta (initialGuess o pts f m l) := by
  unfold fitInit at h
  split at h
  · cases h
  · split at h
    next f m l ht =>
      cases h
      have := initial_simplex_shape o delta (initialGuess o pts f m l)
      exact ⟨this.1, this.2.2.1, f, m, l, ht, rfl⟩
    · cases h
    · cases h

/-- The vertex-fit simplex is 4 × 3 with guess `(0, 0, mean z)`. -/
theorem vertex_simplex_shape (delta meanZ : α) :
    (initialSimplex o delta (vertexGuess o meanZ)).length = 4 ∧
    (∀ row ∈ initialSimplex o delta (vertexGuess o meanZ), row.length = 3) ∧
    (initialSimplex o delta (vertexGuess o meanZ))[0]? = some [o.h.zero, o.h.zero, meanZ] :=
  have := initial_simplex_shape o delta (vertexGuess o meanZ)
  ⟨this.1, this.2.2.1, this.2.1⟩

/-- Whenever `find_vertices` (model `vertexInit`) runs a fit, its simplex is 4 × 3. -/
theorem vertexInit_shape (minLen maxDca maxDist delta : α) (ts : Array (TrackP α)) (d : TrackP α)
    (c : List Nat) (s : List (List α))
    (h : vertexInit o minLen maxDca maxDist delta ts d = .ok (some (c, s))) :
    s.length = 4 ∧ ∀ row ∈ s, row.length = 3 := by
  unfold vertexInit at h
  split at h
  · split at h
    · cases h
    · cases h
      exact (vertex_simplex_shape o delta _).imp_right And.left
    · cases h
    · cases h
  · cases h
  · cases h

/-- **Panic inventory of the whole initial-guess stage**, any carrier: `fit_cluster_to_helix` up to
the construction of the simplex panics exactly (1) at `assert!(sp.len() >= 3)` for a cluster of
fewer than three points, or (2) at `partial_cmp(..).unwrap()` when `(p.r - middle_r).abs()` is NaN
for one of the points. In particular a NaN in `phi` or `z`, or a NaN produced by the circle
computation, is *not* stopped here: it flows into the simplex (and trips the `assert!(!val.is_nan())`
of the cost function later). -/
theorem fit_init_panic_sites (nan : α → Prop) (hcmp : ∀ a b, o.cmp a b = none ↔ nan a ∨ nan b)
    (delta : α) (pts : List (Point α)) (s : String) :
    fitInit o delta pts = .panic s ↔
      (pts.length < 3 ∧ s = siteAssertLen) ∨
      (3 ≤ pts.length ∧ s = sitePartialCmp ∧
        ∃ f l, (minmaxByKey o.h.lt (fun p : Point α => p.r) pts).intoOption = some (f, l) ∧
          ∃ p ∈ pts, nan (devFrom o (midR o f l) p)) := by
  unfold fitInit
  by_cases hlen : pts.length < 3
  · rw [if_pos hlen]
    exact ⟨fun h => .inl ⟨hlen, (Outcome.panic.inj h).symm⟩,
      fun h => h.elim (fun h => h.2 ▸ rfl) fun h => absurd h.1 (Nat.not_le.2 hlen)⟩
  · have h3 : 3 ≤ pts.length := Nat.le_of_not_lt hlen
    have hne : pts ≠ [] := by rintro rfl; cases h3
    have key := template_panic_iff o nan hcmp pts s
    rw [or_iff_right fun h => hne h.1, and_iff_right (Nat.le_of_succ_le h3)] at key
    rw [if_neg hlen, or_iff_right fun h => hlen h.1, and_iff_right h3, ← key]
    split <;> simp [*]

end AnyCarrier

/-- The operations a field does not provide (arbitrary: no theorem below assumes anything about
them except where a hypothesis says so). -/
structure Transc (K : Type) where
  sin : K → K
  cos : K → K
  atan2 : K → K → K
  hypot : K → K → K
  floor : K → K
  pi : K
  eps : K
  simplexDefault : K

section Field
set_option linter.unusedSectionVars false
variable {K : Type} [Field K] [LinearOrder K] [IsStrictOrderedRing K]

/-- Exact arithmetic: `==` is equality, `<` the order, `partial_cmp` never fails. -/
def fieldOps (t : Transc K) : TOps K where
  h :=
    { add := (· + ·), sub := (· - ·), mul := (· * ·), div := (· / ·), neg := fun x => -x,
      abs := fun x => |x|, lt := fun a b => decide (a < b), sin := t.sin, cos := t.cos,
      atan2 := t.atan2, hypot := t.hypot, floor := t.floor, zero := 0, one := 1, two := 2,
      four := 4, pi := t.pi, eps := t.eps }
  eq := fun a b => decide (a = b)
  cmp := fun a b => some (compare a b)
  ofNat := fun n => (n : K)
  negZero := 0
  simplexDefault := t.simplexDefault

variable (t : Transc K)

/-- `(x(), y())` of a space point. -/
def xy (p : Point K) : K × K := (xOf (fieldOps t) p, yOf (fieldOps t) p)

/-- The collinearity equation of `three_template_points` on coordinates (`z1` first, `z2` middle,
`z3` last). -/
def crossEq (z1 z2 z3 : K × K) : Prop :=
  (z3.1 - z1.1) * (z2.2 - z1.2) = (z2.1 - z1.1) * (z3.2 - z1.2)

theorem collinear_iff (f m l : Point K) :
    collinear (fieldOps t) f m l = true ↔ crossEq (xy t f) (xy t m) (xy t l) := by
  simp [collinear, fieldOps, crossEq, xy]

theorem normSqr_sub_conj (w : K × K) :
    cNormSqr (fieldOps t) (cSub (fieldOps t) w (cConj (fieldOps t) w)) = 4 * (w.2 * w.2) := by
  simp only [cNormSqr, cSub, cConj, fieldOps]; ring

theorem normSqr_sub (z2 z1 : K × K) :
    cNormSqr (fieldOps t) (cSub (fieldOps t) z2 z1)
      = (z2.1 - z1.1) * (z2.1 - z1.1) + (z2.2 - z1.2) * (z2.2 - z1.2) := rfl

theorem circleW_im (z1 z2 z3 : K × K) :
    (circleW (fieldOps t) z1 z2 z3).2
      = ((z3.2 - z1.2) * (z2.1 - z1.1) - (z3.1 - z1.1) * (z2.2 - z1.2))
          / ((z2.1 - z1.1) * (z2.1 - z1.1) + (z2.2 - z1.2) * (z2.2 - z1.2)) := rfl

theorem normSqr_sub_eq_zero (a b : K × K) : cNormSqr (fieldOps t) (cSub (fieldOps t) a b) = 0 ↔ a = b := by
  rw [normSqr_sub, mul_self_add_mul_self_eq_zero, sub_eq_zero, sub_eq_zero, Prod.ext_iff]

/-- The cross product of `(a, b)` and `(c, d)` does not vanish iff `(a, b) ≠ 0` and its quotient by
`|(a, b)|²` does not: the cross product vanishes when `(a, b) = 0`. -/
theorem cross_ne_iff (a b c d : K) :
    ¬ c * b = a * d ↔ a * a + b * b ≠ 0 ∧ (d * a - c * b) / (a * a + b * b) ≠ 0 := by
  rw [div_ne_zero_iff, sub_ne_zero, mul_comm d, ne_comm (a := a * d)]
  refine ⟨fun h => ?_, fun h => h.2.1⟩
  have hden : a * a + b * b ≠ 0 := fun h0 => by
    obtain ⟨rfl, rfl⟩ := mul_self_add_mul_self_eq_zero.1 h0
    exact h (by rw [mul_zero, zero_mul])
  exact ⟨hden, h, hden⟩

/-- The collinearity equation fails iff `z2 ≠ z1` and `Im w ≠ 0`: `Im w` is the cross product over `|z2 − z1|²`. -/
theorem guard_iff (z1 z2 z3 : K × K) :
    ¬ crossEq z1 z2 z3 ↔ z2 ≠ z1 ∧ (circleW (fieldOps t) z1 z2 z3).2 ≠ 0 := by
  rw [circleW_im, crossEq, cross_ne_iff, ← normSqr_sub t, Ne, normSqr_sub_eq_zero]

/-- **(a)** on coordinates. The collinearity equation fails iff both
divisors of `circle_through_three_points` — `norm_sqr(z2 − z1)` of `w = (z3 − z1)/(z2 − z1)` and
`norm_sqr(w − conj w)` of `c' = (w − |w|²)/(w − conj w)` — are non-zero. So the source comment "it
exactly matches a fail mode" is true in exact arithmetic, in both directions. -/
theorem guard_iff_circle_defined_xy (z1 z2 z3 : K × K) :
    ¬ crossEq z1 z2 z3 ↔
      cNormSqr (fieldOps t) (cSub (fieldOps t) z2 z1) ≠ 0 ∧
      cNormSqr (fieldOps t)
        (cSub (fieldOps t) (circleW (fieldOps t) z1 z2 z3) (cConj (fieldOps t) (circleW (fieldOps t) z1 z2 z3))) ≠ 0 := by
  rw [guard_iff t, normSqr_sub_conj, Ne, Ne, Ne, Ne, normSqr_sub_eq_zero, mul_eq_zero, mul_self_eq_zero,
    or_iff_right four_ne_zero]

/-- **(a)** For the template points: the test of
`three_template_points` is false (the code proceeds to `circle_through_three_points`) iff
`z2 ≠ z1` and `Im w ≠ 0`. -/
theorem guard_iff_circle_defined (f m l : Point K) :
    collinear (fieldOps t) f m l = false ↔
      xy t m ≠ xy t f ∧ (circleW (fieldOps t) (xy t f) (xy t m) (xy t l)).2 ≠ 0 := by
  rw [← guard_iff, ← collinear_iff, Bool.not_eq_true]

theorem cMul_cDiv (u v : K × K) (hu : cNormSqr (fieldOps t) u ≠ 0) :
    cMul (fieldOps t) u (cDiv (fieldOps t) v u) = v := by
  have hu' : u.1 * u.1 + u.2 * u.2 ≠ 0 := hu
  ext
  · show u.1 * ((v.1 * u.1 + v.2 * u.2) / (u.1 * u.1 + u.2 * u.2))
      - u.2 * ((v.2 * u.1 - v.1 * u.2) / (u.1 * u.1 + u.2 * u.2)) = v.1
    rw [← mul_div_assoc, ← mul_div_assoc, ← sub_div, div_eq_iff hu']; ring
  · show u.1 * ((v.2 * u.1 - v.1 * u.2) / (u.1 * u.1 + u.2 * u.2))
      + u.2 * ((v.1 * u.1 + v.2 * u.2) / (u.1 * u.1 + u.2 * u.2)) = v.2
    rw [← mul_div_assoc, ← mul_div_assoc, ← add_div, div_eq_iff hu']; ring

theorem circleCPrime_eq (w : K × K) (hwi : w.2 ≠ 0) :
    circleCPrime (fieldOps t) w = (1 / 2, (w.1 * w.1 + w.2 * w.2 - w.1) / (2 * w.2)) := by
  have h2 : 2 * w.2 ≠ 0 := mul_ne_zero two_ne_zero hwi
  -- the divisor `w − conj w` is `(0, 2 Im w)`; with it spelled out both components are one cancellation
  -- (`field_simp; ring` on the unfolded quotients costs four times as much)
  simp only [circleCPrime, cDiv, cSubReal, cNormSqr, cSub, cConj, fieldOps, Prod.mk.injEq, sub_self, mul_zero,
    zero_add, zero_sub, sub_neg_eq_add, ← two_mul]
  exact ⟨by rw [mul_div_mul_right _ _ h2, div_mul_cancel_right₀ hwi, one_div],
    by rw [← neg_mul, neg_sub, mul_div_mul_right _ _ h2]⟩

/-- The algebra of the circumcentre: with `u = z2 − z1`, `z3 − z1 = u w` and `c = z1 + u (1/2 + i s)`
where `2 (Im w) s = |w|² − Re w`, all three squared distances to `c` are `|u|² (1/4 + s²)`. -/
theorem circumcentre {x1 y1 x2 y2 x3 y3 wr wi s cx cy : K}
    (h3x : x3 - x1 = (x2 - x1) * wr - (y2 - y1) * wi) (h3y : y3 - y1 = (x2 - x1) * wi + (y2 - y1) * wr)
    (hs : 2 * wi * s = wr * wr + wi * wi - wr)
    (hcx : cx = (x2 - x1) * (1 / 2) - (y2 - y1) * s + x1) (hcy : cy = (x2 - x1) * s + (y2 - y1) * (1 / 2) + y1) :
    (x1 - cx) ^ 2 + (y1 - cy) ^ 2 = ((x2 - x1) * (x2 - x1) + (y2 - y1) * (y2 - y1)) * (1 / 4 + s * s) ∧
    (x2 - cx) ^ 2 + (y2 - cy) ^ 2 = ((x2 - x1) * (x2 - x1) + (y2 - y1) * (y2 - y1)) * (1 / 4 + s * s) ∧
    (x3 - cx) ^ 2 + (y3 - cy) ^ 2 = ((x2 - x1) * (x2 - x1) + (y2 - y1) * (y2 - y1)) * (1 / 4 + s * s) := by
  obtain rfl : x3 = x1 + ((x2 - x1) * wr - (y2 - y1) * wi) := by rw [← h3x, add_sub_cancel]
  obtain rfl : y3 = y1 + ((x2 - x1) * wi + (y2 - y1) * wr) := by rw [← h3y, add_sub_cancel]
  -- `x2 − x1`, `y2 − y1` become atoms: the polynomials `ring` sees stay small
  obtain ⟨ux, rfl⟩ : ∃ ux, x2 = x1 + ux := ⟨x2 - x1, (add_sub_cancel _ _).symm⟩
  obtain ⟨uy, rfl⟩ : ∃ uy, y2 = y1 + uy := ⟨y2 - y1, (add_sub_cancel _ _).symm⟩
  simp only [add_sub_cancel_left] at hcx hcy ⊢
  subst hcx hcy
  exact ⟨by ring, by ring, by linear_combination (-(ux * ux + uy * uy)) * hs⟩

/-- **(b)** If the collinearity equation fails, the centre `(x0, y0)` returned by
`circle_through_three_points` is equidistant from the three points; with any `hypot` satisfying
`hypot x y ≥ 0`, `hypot x y ² = x² + y²`, the returned `r` is that distance, and `r > 0`. -/
theorem circle_correct (z1 z2 z3 : K × K) (hguard : ¬ crossEq z1 z2 z3)
    (hhyp : ∀ x y, 0 ≤ t.hypot x y ∧ t.hypot x y ^ 2 = x ^ 2 + y ^ 2) :
    let c := circleThrough (fieldOps t) z1 z2 z3
    (z1.1 - c.1) ^ 2 + (z1.2 - c.2.1) ^ 2 = c.2.2 ^ 2 ∧
    (z2.1 - c.1) ^ 2 + (z2.2 - c.2.1) ^ 2 = c.2.2 ^ 2 ∧
    (z3.1 - c.1) ^ 2 + (z3.2 - c.2.1) ^ 2 = c.2.2 ^ 2 ∧
    0 < c.2.2 := by
  obtain ⟨hne, hwi⟩ := (guard_iff t z1 z2 z3).1 hguard
  have hN : cNormSqr (fieldOps t) (cSub (fieldOps t) z2 z1) ≠ 0 := mt (normSqr_sub_eq_zero t z2 z1).1 hne
  -- `z3 − z1 = (z2 − z1) w` and `c = z1 + (z2 − z1) (1/2, s)`; the rest is `circumcentre`
  have hv : cMul (fieldOps t) (cSub (fieldOps t) z2 z1) (circleW (fieldOps t) z1 z2 z3) = cSub (fieldOps t) z3 z1 :=
    cMul_cDiv t _ _ hN
  have hc : circleC (fieldOps t) z1 z2 z3 = cAdd (fieldOps t) (cMul (fieldOps t) (cSub (fieldOps t) z2 z1) _) z1 :=
    congrArg (fun c' => cAdd (fieldOps t) (cMul (fieldOps t) (cSub (fieldOps t) z2 z1) c') z1)
      (circleCPrime_eq t _ hwi)
  obtain ⟨e1, e2, e3⟩ := circumcentre (congrArg Prod.fst hv).symm (congrArg Prod.snd hv).symm
    (mul_div_cancel₀ _ (mul_ne_zero two_ne_zero hwi)) (congrArg Prod.fst hc) (congrArg Prod.snd hc)
  intro c
  have hr : c.2.2 ^ 2 = (z1.1 - c.1) ^ 2 + (z1.2 - c.2.1) ^ 2 := (hhyp _ _).2
  have hpos : 0 < c.2.2 ^ 2 :=
    lt_of_lt_of_eq (mul_pos (lt_of_le_of_ne (add_nonneg (mul_self_nonneg _) (mul_self_nonneg _)) (Ne.symm hN))
      (add_pos_of_pos_of_nonneg (by norm_num) (mul_self_nonneg _))) (hr.trans e1).symm
  exact ⟨hr.symm, e2.trans (e1.symm.trans hr.symm), e3.trans (e1.symm.trans hr.symm),
    lt_of_le_of_ne (hhyp _ _).1 fun h0 => by rw [← h0] at hpos; simp at hpos⟩

/-- `(p.r − (first.r + last.r)/2).abs()`. -/
def devKey (f l p : Point K) : K := |p.r - (f.r + l.r) / 2|

/-- The first point of minimal radius. -/
def selFirst (p0 : Point K) (rest : List (Point K)) : Point K := firstMin (fun p : Point K => p.r) p0 rest
/-- The last point of maximal radius. -/
def selLast (p0 : Point K) (rest : List (Point K)) : Point K := lastMax (fun p : Point K => p.r) p0 rest
/-- The first point whose radius is closest to the mid radius. -/
def selMiddle (p0 : Point K) (rest : List (Point K)) : Point K :=
  firstMin (devKey (selFirst p0 rest) (selLast p0 rest)) p0 rest

theorem middleOf_eq (f l p0 : Point K) (rest : List (Point K)) :
    middleOf (fieldOps t) f l p0 rest = .ok (firstMin (devKey f l) p0 rest) :=
  minByFold_eq_firstMin (devKey f l) sitePartialCmp rest p0

/-- Over an ordered field `three_template_points` of a non-empty slice is: select
(first minimum of `r`, first minimum of `|r − mid|`, last maximum of `r`), then test collinearity. -/
theorem template_eq (p0 : Point K) (rest : List (Point K)) :
    threeTemplatePoints (fieldOps t) (p0 :: rest) =
      if collinear (fieldOps t) (selFirst p0 rest) (selMiddle p0 rest) (selLast p0 rest) = true
      then .err .NoInitialParameters
      else .ok (selFirst p0 rest, selMiddle p0 rest, selLast p0 rest) := by
  have h1 : (minmaxByKey (fieldOps t).h.lt (fun p : Point K => p.r) (p0 :: rest)).intoOption
      = some (selFirst p0 rest, selLast p0 rest) := minmaxByKey_eq (fun p : Point K => p.r) p0 rest
  unfold threeTemplatePoints
  rw [h1]
  simp only [middleOf_eq]
  rfl

/-- **(c)** no panic on a non-empty slice (no NaN in an ordered field). -/
theorem template_total (pts : List (Point K)) (hne : pts ≠ []) (s : String) :
    threeTemplatePoints (fieldOps t) pts ≠ .panic s := by
  match pts, hne with
  | p0 :: rest, _ => rw [template_eq]; split <;> simp

/-- **(c) the tie rules** (`minmax_by_key`: first minimum, last maximum; `min_by`: first minimum):
the input splits around each selected point with strict inequalities on the side the rule names. -/
theorem template_first_last_rule (pts : List (Point K)) (f m l : Point K)
    (h : threeTemplatePoints (fieldOps t) pts = .ok (f, m, l)) :
    (∃ pre post, pts = pre ++ f :: post ∧ (∀ p ∈ pre, f.r < p.r) ∧ (∀ p ∈ post, f.r ≤ p.r)) ∧
    (∃ pre post, pts = pre ++ l :: post ∧ (∀ p ∈ pre, p.r ≤ l.r) ∧ (∀ p ∈ post, p.r < l.r)) ∧
    (∃ pre post, pts = pre ++ m :: post ∧ (∀ p ∈ pre, devKey f l m < devKey f l p) ∧
      (∀ p ∈ post, devKey f l m ≤ devKey f l p)) := by
  match pts, h with
  | p0 :: rest, h =>
    rw [template_eq] at h
    split at h
    · cases h
    · cases h
      exact ⟨firstMin_spec _ rest p0, lastMax_spec _ rest p0, firstMin_spec _ rest p0⟩

/-- **(c) extremal radii.** `first.r ≤ p.r ≤ last.r` for every input point, and the middle point
minimises `|p.r − (first.r + last.r)/2|`. -/
theorem template_extremal (pts : List (Point K)) (f m l : Point K)
    (h : threeTemplatePoints (fieldOps t) pts = .ok (f, m, l)) :
    ∀ p ∈ pts, f.r ≤ p.r ∧ p.r ≤ l.r ∧ devKey f l m ≤ devKey f l p := by
  obtain ⟨⟨_, _, e1, a1, b1⟩, ⟨_, _, e2, a2, b2⟩, ⟨_, _, e3, a3, b3⟩⟩ := template_first_last_rule t pts f m l h
  have h1 : ∀ p ∈ pts, f.r ≤ p.r := e1 ▸ List.forall_mem_append.2
    ⟨fun p hp => le_of_lt (a1 p hp), List.forall_mem_cons.2 ⟨le_refl _, b1⟩⟩
  have h2 : ∀ p ∈ pts, p.r ≤ l.r := e2 ▸ List.forall_mem_append.2
    ⟨a2, List.forall_mem_cons.2 ⟨le_refl _, fun p hp => le_of_lt (b2 p hp)⟩⟩
  have h3 : ∀ p ∈ pts, devKey f l m ≤ devKey f l p := e3 ▸ List.forall_mem_append.2
    ⟨fun p hp => le_of_lt (a3 p hp), List.forall_mem_cons.2 ⟨le_refl _, b3⟩⟩
  exact fun p hp => ⟨h1 p hp, h2 p hp, h3 p hp⟩

/-- **(e)** The initial-guess stage returns `NoInitialParameters`
iff the cluster has at least three points and the collinearity equation holds for the selected
template points (first minimum of `r`, first point closest to the mid radius, last maximum of `r`). -/
theorem no_initial_parameters_iff (delta : K) (p0 : Point K) (rest : List (Point K)) :
    fitInit (fieldOps t) delta (p0 :: rest) = .err .NoInitialParameters ↔
      3 ≤ (p0 :: rest).length ∧
      crossEq (xy t (selFirst p0 rest)) (xy t (selMiddle p0 rest)) (xy t (selLast p0 rest)) := by
  unfold fitInit
  rw [template_eq, ← collinear_iff]
  by_cases hlen : (p0 :: rest).length < 3
  · simp only [hlen, if_true, reduceCtorEq, false_iff, not_and]
    intro h; omega
  · simp only [hlen, if_false]
    by_cases hc : collinear (fieldOps t) (selFirst p0 rest) (selMiddle p0 rest) (selLast p0 rest) = true
    · simp only [hc, if_true, true_iff, and_true]; omega
    · simp [hc]

/-- **(e), totality.** Over an ordered field the initial-guess stage panics only through
`assert!(sp.len() >= 3)`, and exactly for clusters shorter than three points. -/
theorem fit_init_panic_iff (delta : K) (pts : List (Point K)) (s : String) :
    fitInit (fieldOps t) delta pts = .panic s ↔ pts.length < 3 ∧ s = siteAssertLen := by
  rw [fit_init_panic_sites (fieldOps t) (fun _ => False) (fun _ _ => by simp [fieldOps]) delta pts s]
  simp

/-- **(d)** each perturbed coordinate differs from the guess whenever `delta ≠ 0` (and the literal
`0.00025 ≠ 0`): the initial simplex is non-degenerate in every coordinate direction. -/
theorem perturb_ne (delta x : K) (hd : delta ≠ 0) (hs : t.simplexDefault ≠ 0) :
    perturbValue (fieldOps t) delta x ≠ x := by
  unfold perturbValue
  simp only [fieldOps, decide_eq_true_eq]
  split
  next h => rw [h]; exact hs
  next h => exact fun heq => (mul_eq_zero.1 (by linear_combination heq : x * delta = 0)).elim h hd

/-- **(d)** row `i + 1` of the simplex differs from the guess exactly in coordinate `i`. -/
theorem initial_simplex_nondegenerate (delta : K) (g : List K) (hd : delta ≠ 0)
    (hs : t.simplexDefault ≠ 0) (i : Nat) (hi : i < g.length) :
    ∃ row, (initialSimplex (fieldOps t) delta g)[i + 1]? = some row ∧ row ≠ g ∧
      ∀ j, row[j]? ≠ g[j]? ↔ j = i := by
  obtain ⟨row, hrow, hri, hrj⟩ := (initial_simplex_shape (fieldOps t) delta g).2.2.2 i hi
  have hne : row[i]? ≠ g[i]? := by
    rw [hri, List.getD_eq_getElem?_getD, List.getElem?_eq_getElem hi]
    exact fun h => perturb_ne t delta g[i] hd hs (Option.some.inj h)
  exact ⟨row, hrow, fun h => hne (h ▸ rfl),
    fun j => ⟨fun h => by_contra fun hj => h (hrj j hj), fun hj => hj ▸ hne⟩⟩

end Field

/-! ## Non-vacuity: concrete instances over ℚ -/

section Examples

/-- A concrete `Transc ℚ` (`cos φ = φ`, `sin φ = φ²`: any functions will do; `hypot` is a stand-in). -/
def qT : Transc ℚ where
  sin := fun x => x * x
  cos := fun x => x
  atan2 := fun y _ => y
  hypot := fun x y => x + y
  floor := fun x => x
  pi := 3
  eps := 1 / 1000
  simplexDefault := 1 / 4000

/-- Three points with `(x, y) = (0, 0), (2, 2), (−3, 3)` (radii 1, 2, 3). -/
def exPts : List (Point ℚ) := [⟨1, 0, 5⟩, ⟨2, 1, 7⟩, ⟨3, -1, 9⟩]
/-- Three collinear points `(1,1), (2,2), (3,3)`. -/
def exCol : List (Point ℚ) := [⟨1, 1, 0⟩, ⟨2, 1, 0⟩, ⟨3, 1, 0⟩]

/-- (a)/(b) non-vacuous: the guard passes for `(0,0), (2,2), (−3,3)`. -/
example : ¬ crossEq ((0 : ℚ), (0 : ℚ)) (2, 2) (-3, 3) := by norm_num [crossEq]

/-- (b) concretely: the circle through `(0,0), (2,2), (−3,3)` has centre `(−1/2, 5/2)`. -/
example : (circleThrough (fieldOps qT) ((0 : ℚ), (0 : ℚ)) (2, 2) (-3, 3)).1 = -1 / 2 ∧
    (circleThrough (fieldOps qT) ((0 : ℚ), (0 : ℚ)) (2, 2) (-3, 3)).2.1 = 5 / 2 := by decide +kernel

/-- (e) non-vacuous, both ways. -/
example : fitInit (fieldOps qT) (1 / 20) exCol = .err .NoInitialParameters := by decide +kernel

example : ∃ s, fitInit (fieldOps qT) (1 / 20) exPts = .ok s ∧ s.length = 7 := by
  have hok : (fitInit (fieldOps qT) (1 / 20) exPts).isOk = true := by decide +kernel
  cases h : fitInit (fieldOps qT) (1 / 20) exPts with
  | ok s => exact ⟨s, rfl, (fit_simplex_shape (fieldOps qT) _ _ s h).1⟩
  | err e => rw [h] at hok; cases hok
  | panic s => rw [h] at hok; cases hok

/-- (d) non-vacuous: a guess with a zero entry. -/
example : initialSimplex (fieldOps qT) (1 / 20) [0, 2, 3]
    = [[0, 2, 3], [1 / 4000, 2, 3], [0, 21 / 10, 3], [0, 2, 63 / 20]] := by decide +kernel

/-- (b) the `hypot` hypothesis of `circle_correct` is satisfiable (over ℝ, by the real `hypot`). -/
noncomputable def realT : Transc ℝ where
  sin := fun x => x
  cos := fun x => x
  atan2 := fun y _ => y
  hypot := fun x y => Real.sqrt (x ^ 2 + y ^ 2)
  floor := fun x => x
  pi := 3
  eps := 1 / 1000
  simplexDefault := 1 / 4000

example : ∀ x y : ℝ, 0 ≤ realT.hypot x y ∧ realT.hypot x y ^ 2 = x ^ 2 + y ^ 2 :=
  fun x y => ⟨Real.sqrt_nonneg _, Real.sq_sqrt (by positivity)⟩

/-- `circle_correct` applied: the circle through `(0,0), (2,2), (−3,3)` over ℝ has `r > 0`. -/
example : 0 < (circleThrough (fieldOps realT) ((0 : ℝ), (0 : ℝ)) (2, 2) (-3, 3)).2.2 :=
  (circle_correct realT (0, 0) (2, 2) (-3, 3) (by norm_num [crossEq])
    (fun x y => ⟨Real.sqrt_nonneg _, Real.sq_sqrt (by positivity)⟩)).2.2.2

/-! A carrier with a NaN (`Option Int`, `none` = NaN) for the panic inventory `template_panic_iff`. -/

def nanBin (f : Int → Int → Int) (a b : Option Int) : Option Int :=
  match a, b with
  | some x, some y => some (f x y)
  | _, _ => none

def nanOps : TOps (Option Int) where
  h :=
    { add := nanBin (· + ·), sub := nanBin (· - ·), mul := nanBin (· * ·), div := nanBin (· / ·),
      neg := Option.map (fun x => -x), abs := Option.map (fun x => |x|),
      lt := fun a b => match a, b with
        | some x, some y => decide (x < y)
        | _, _ => false,
      sin := fun _ => some 0, cos := fun _ => some 1, atan2 := fun a _ => a, hypot := fun a _ => a,
      floor := id, zero := some 0, one := some 1, two := some 2, four := some 4, pi := some 3, eps := some 0 }
  eq := fun a b => match a, b with
    | some x, some y => decide (x = y)
    | _, _ => false
  cmp := fun a b => match a, b with
    | some x, some y => some (compare x y)
    | _, _ => none
  ofNat := fun n => some n
  negZero := some 0
  simplexDefault := some 1

theorem nanOps_cmp (a b : Option Int) : nanOps.cmp a b = none ↔ a = none ∨ b = none := by
  match a, b with
  | none, _ => exact ⟨fun _ => .inl rfl, fun _ => rfl⟩
  | some _, none => exact ⟨fun _ => .inr rfl, fun _ => rfl⟩
  | some _, some _ => exact ⟨nofun, fun h => by rcases h with h | h <;> cases h⟩

/-- A NaN radius reaches `partial_cmp(..).unwrap()` … -/
example : threeTemplatePoints nanOps [⟨some 1, some 0, some 0⟩, ⟨none, some 0, some 0⟩, ⟨some 5, some 0, some 0⟩]
    = .panic sitePartialCmp := by rfl

/-- … exactly as `template_panic_iff` says (its right-hand side holds for this input). -/
example : ∃ f l, (minmaxByKey nanOps.h.lt (fun p : Point (Option Int) => p.r)
      [⟨some 1, some 0, some 0⟩, ⟨none, some 0, some 0⟩, ⟨some 5, some 0, some 0⟩]).intoOption = some (f, l) ∧
    ∃ p ∈ ([⟨some 1, some 0, some 0⟩, ⟨none, some 0, some 0⟩, ⟨some 5, some 0, some 0⟩] : List (Point (Option Int))),
      devFrom nanOps (midR nanOps f l) p = none :=
  ⟨_, _, rfl, ⟨none, some 0, some 0⟩, by simp, rfl⟩

/-- The empty slice reaches `into_option().unwrap()`. -/
example : threeTemplatePoints (fieldOps qT) [] = .panic siteMinmax := rfl

/-! The two test vectors whose statements compare `Point ℚ` values are decided with a derived equality test. -/
deriving instance DecidableEq for Point

example : threeTemplatePoints (fieldOps qT) exPts = .ok (⟨1, 0, 5⟩, ⟨2, 1, 7⟩, ⟨3, -1, 9⟩) := by decide +kernel

/-- (c) the tie rules, concretely: radii `1, 1, 3, 3` (in this order) select the **first** point of
radius 1 and the **last** point of radius 3; both are equally far from the mid radius 2 and the
**first** such point (index 0) becomes the middle point — which equals `first`, so the three
points are collinear and the stage answers `NoInitialParameters`. -/
example : selFirst (⟨1, 0, 10⟩ : Point ℚ) [⟨1, 1, 11⟩, ⟨3, 2, 12⟩, ⟨3, 3, 13⟩] = ⟨1, 0, 10⟩ ∧
    selLast (⟨1, 0, 10⟩ : Point ℚ) [⟨1, 1, 11⟩, ⟨3, 2, 12⟩, ⟨3, 3, 13⟩] = ⟨3, 3, 13⟩ ∧
    selMiddle (⟨1, 0, 10⟩ : Point ℚ) [⟨1, 1, 11⟩, ⟨3, 2, 12⟩, ⟨3, 3, 13⟩] = ⟨1, 0, 10⟩ := by decide +kernel

end Examples

end AlphaG.C14b
