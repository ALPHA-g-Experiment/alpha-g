import AlphaG.Lemmas.ClusterLoop
import AlphaG.Lemmas.ClusterVertex
import AlphaG.Lemmas.OkOr
/-
C15 — clustering and vertexing conserve their inputs and honour the size and distance rules.

Model: `AlphaG.Cluster.cluster` (Model/Cluster.lean), `AlphaG.Vertexing.findVertices`
(Model/Vertexing.lean). All statements hold for inputs of **any size**, any `bins`, any `near`,
any `min ≥ 1` (the code passes 13), under `Ctx.Good`:

* `eq` (`SpacePoint ==`) is an equivalence — true for NaN-free points (`-0.0 == 0.0` is the only
  non-bitwise equality); with a NaN coordinate `p == p` is false and the Rust code itself panics
  in `remove_unchecked` (outside the quantifier of C15);
* `get_bins` respects `==` and never lists a bin twice for one point (the correspondence run
  checks both on every generated cloud; in `get_bins` the bins of one point have pairwise
  distinct `theta` or distinct `rho`);
* `near` symmetric, used by `cluster_connected` only (`distance` is symmetric bit for bit:
  `(a-b)² = (b-a)²`; also checked on every generated cloud).

"Multiset modulo `==`": the Rust code moves *values*; two `==` points are indistinguishable to
it, so conservation is stated on multiplicities of `==`-classes (`cnt ctx x l` = number of
elements of `l` that are `==` to `x`), and additionally as a genuine permutation up to
pointwise `==` (`cluster_partition_perm`), and as `List.Perm` when `==` is identity of indices.
-/
namespace AlphaG.Cluster

/-- Pointwise `==`. -/
inductive EqList (ctx : Ctx) : List Nat → List Nat → Prop
  | nil : EqList ctx [] []
  | cons {a b : Nat} {l l' : List Nat} : ctx.eq a b = true → EqList ctx l l' →
      EqList ctx (a :: l) (b :: l')

theorem eqList_left {ctx : Ctx} {l l' : List Nat} (h : EqList ctx l l') :
    l.length = l'.length ∧ ∀ a ∈ l, ∃ b ∈ l', ctx.eq a b = true := by
  induction h with
  | nil => exact ⟨rfl, fun a ha => by cases ha⟩
  | cons hab _ ih =>
    refine ⟨by simp [ih.1], fun x hx => ?_⟩
    rcases List.mem_cons.1 hx with rfl | hx
    · exact ⟨_, by simp, hab⟩
    · obtain ⟨b, hb, hxb⟩ := ih.2 x hx
      exact ⟨b, by simp [hb], hxb⟩

theorem exists_perm_of_cnt_eq {ctx : Ctx} (g : ctx.Good) (l' l : List Nat)
    (h : ∀ x, cnt ctx x l = cnt ctx x l') : ∃ l'', l''.Perm l ∧ EqList ctx l'' l' := by
  induction l' generalizing l with
  | nil =>
    cases l with
    | nil => exact ⟨[], .refl _, .nil⟩
    | cons a t =>
      have := h a; have := cnt_self_pos g (List.mem_cons_self (a := a) (l := t))
      rw [cnt_nil] at *; omega
  | cons a' t' ih =>
    obtain ⟨a, ha, haa, he⟩ := exists_cnt_erase g (a := a') (l := l)
      (by rw [h]; exact cnt_self_pos g List.mem_cons_self)
    obtain ⟨l2, hp2, he2⟩ := ih (l.erase a) fun x => by
      have := h x; have := he x; rw [cnt_cons] at *; omega
    exact ⟨a :: l2, (hp2.cons a).trans (List.perm_cons_erase ha).symm,
      .cons (g.eq_symm _ _ haa) he2⟩

/-- C14/C15 `cluster_total`: for every input, every `bins`/`near`, `min ≥ 1`, the model
terminates with fuel `|sp| + 1` in both loops and none of the bookkeeping `unwrap`s fires
(`get_mut(&bin).unwrap()`, the two `position(..).unwrap()`): the outcome is `.ok`. -/
theorem cluster_total {ctx : Ctx} (g : ctx.Good) (min : Nat) (hmin : 1 ≤ min) (sp : List Nat) :
    ∃ r, cluster ctx min sp = .ok r :=
  (cluster_spec g min hmin sp).imp fun _ h => h.1

/-- C15 `cluster_partition`: every `==`-class occurs in `clusters.flatten ++ remainder`
exactly as often as in the input (in particular nothing else appears: a point that is not
`==` to an input point has multiplicity 0). -/
theorem cluster_partition {ctx : Ctx} (g : ctx.Good) (min : Nat) (hmin : 1 ≤ min)
    (sp : List Nat) (r : Result) (h : cluster ctx min sp = .ok r) :
    ∀ x, cnt ctx x (r.clusters.flatten ++ r.remainder) = cnt ctx x sp :=
  fun x => (cnt_append ..).trans ((cluster_ok g hmin h).1 x)

/-- The same as a permutation of the input up to pointwise `==`. -/
theorem cluster_partition_perm {ctx : Ctx} (g : ctx.Good) (min : Nat) (hmin : 1 ≤ min)
    (sp : List Nat) (r : Result) (h : cluster ctx min sp = .ok r) :
    ∃ l, l.Perm (r.clusters.flatten ++ r.remainder) ∧ EqList ctx l sp :=
  exists_perm_of_cnt_eq g sp _ (cluster_partition g min hmin sp r h)

/-- When `==` is identity of indices (no two distinct input points are `==`-equal),
conservation is `List.Perm`. -/
theorem cluster_partition_perm_of_eq {ctx : Ctx} (g : ctx.Good)
    (hid : ∀ a b, ctx.eq a b = true ↔ a = b) (min : Nat) (hmin : 1 ≤ min)
    (sp : List Nat) (r : Result) (h : cluster ctx min sp = .ok r) :
    (r.clusters.flatten ++ r.remainder).Perm sp :=
  List.perm_iff_count.2 fun a => by
    rw [← cnt_eq_count hid, ← cnt_eq_count hid]; exact cluster_partition g min hmin sp r h a

/-- C15 `cluster_min_size`: every cluster has at least `min` points. -/
theorem cluster_min_size {ctx : Ctx} (g : ctx.Good) (min : Nat) (hmin : 1 ≤ min)
    (sp : List Nat) (r : Result) (h : cluster ctx min sp = .ok r) :
    ∀ c ∈ r.clusters, min ≤ c.length :=
  fun c hc => ((cluster_ok g hmin h).2 c hc).1

/-- C15 `cluster_connected`: any two points of a cluster are linked by a chain of `near`
steps (`distance ≤ max_distance`) through points of that cluster. -/
theorem cluster_connected {ctx : Ctx} (g : ctx.Good)
    (hsym : ∀ a b, ctx.near a b = true → ctx.near b a = true) (min : Nat) (hmin : 1 ≤ min)
    (sp : List Nat) (r : Result) (h : cluster ctx min sp = .ok r) :
    ∀ c ∈ r.clusters, ∀ p ∈ c, ∀ q ∈ c, Reach ctx.near c p q := by
  intro c hc
  obtain ⟨_, pts, rfl⟩ := (cluster_ok g hmin h).2 c hc
  exact largestCluster_conn hsym pts

/-- C15 `clusters_disjoint`: the clusters together use no `==`-class more often than the
input holds it … -/
theorem clusters_disjoint {ctx : Ctx} (g : ctx.Good) (min : Nat) (hmin : 1 ≤ min)
    (sp : List Nat) (r : Result) (h : cluster ctx min sp = .ok r) :
    ∀ x, cnt ctx x r.clusters.flatten ≤ cnt ctx x sp :=
  fun x => Nat.le.intro ((cluster_ok g hmin h).1 x)

theorem pairwise_disjoint_of_cnt_le_one {ctx : Ctx} (g : ctx.Good) (L : List (List Nat))
    (h : ∀ x, cnt ctx x L.flatten ≤ 1) :
    L.Pairwise (fun c d => ∀ a ∈ c, ∀ b ∈ d, ctx.eq a b = false) := by
  induction L with
  | nil => exact .nil
  | cons c L ih =>
    simp only [List.flatten_cons, cnt_append] at h
    refine .cons (fun d hd a ha b hb => Bool.eq_false_iff.2 fun hab => ?_)
      (ih fun x => by have := h x; omega)
    -- `a` would occur in `c` and, as `b`, once more in `d`
    have := h a
    have := cnt_self_pos g ha
    have := cnt_pos_iff.2 ⟨b, hb, hab⟩
    have := cnt_flatten_le ctx a hd
    omega

/-- … in particular, when the input holds no two `==` points, no point (not even up to `==`)
belongs to two clusters. -/
theorem clusters_pairwise_disjoint {ctx : Ctx} (g : ctx.Good) (min : Nat) (hmin : 1 ≤ min)
    (sp : List Nat) (hnd : ∀ x, cnt ctx x sp ≤ 1) (r : Result) (h : cluster ctx min sp = .ok r) :
    r.clusters.Pairwise (fun c d => ∀ a ∈ c, ∀ b ∈ d, ctx.eq a b = false) :=
  pairwise_disjoint_of_cnt_le_one g _
    (fun x => Nat.le_trans (clusters_disjoint g min hmin sp r h x) (hnd x))

/-! ### Non-vacuity: a concrete context satisfying `Good`, and a concrete run -/

/-- Six points; 0,1,2 and 3,4 vote for a common bin, 5 is a twin (`==`) of 0;
chain 0–1–2 and 3–4 under `near`. -/
def exCtx : Ctx where
  eq := fun a b => a % 5 == b % 5
  bins := fun a => if a % 5 < 3 then [0, 1 + a % 5] else [4, 5 + a % 5]
  near := fun a b => (a % 5 + 1 == b % 5) || (b % 5 + 1 == a % 5) || (a % 5 == b % 5)

theorem exCtx_good : exCtx.Good where
  eq_refl := by intro a; simp [exCtx]
  eq_symm := by intro a b h; simp [exCtx] at *; omega
  eq_trans := by intro a b c h1 h2; simp [exCtx] at *; omega
  bins_nodup := by
    intro a; simp only [exCtx]; split
    · simp; omega
    · simp; omega
  bins_eq := by
    intro a b h k
    simp only [exCtx, beq_iff_eq] at *
    rw [h]

example : cluster exCtx 2 [0, 1, 2, 3, 4, 5] = .ok ⟨[[5, 0, 1, 2], [4, 3]], []⟩ := by decide
example : cluster exCtx 3 [0, 1, 2, 3, 4, 5] = .ok ⟨[[5, 0, 1, 2]], [4, 3]⟩ := by decide

end AlphaG.Cluster

namespace AlphaG.Vertexing
open AlphaG.Cluster (cnt cnt_append)
open AlphaG.Outcome (OkOr)

/-- Tracks assigned to the primary vertex (none when there is no vertex). -/
def Result.primaryTracks (r : Result) : List Nat := r.primary.getD []

/-- Every way `find_vertices`' bookkeeping can end: it returns, and then the tracks are conserved,
there are no secondaries and a primary has at least two tracks; or one of the two
`partial_cmp().unwrap()` (the sort of `beamline_clusters`, the `max_by` on `Σ r`) met a NaN. The
remainder loop's `position(..).unwrap()` does not occur. -/
theorem findVertices_okOr {ctx : Ctx} (g : ctx.Good) (tracks : List Nat) :
    OkOr (fun s =>
        (s = "beamline_clusters:partial_cmp" ∧ ctx.sort (tracks.filter ctx.keep) = none) ∨
        (s = "find_vertices:partial_cmp" ∧ ∃ a b, ctx.cmp a b = none))
      (findVertices ctx tracks) fun r =>
        (∀ x, cnt ctx.toCluster x (r.primaryTracks ++ r.remainder) = cnt ctx.toCluster x tracks) ∧
        r.secondaries = [] ∧ ∀ v, r.primary = some v → 2 ≤ v.length := by
  unfold findVertices
  rcases (beamlineClusters_cases g.sort_perm (tracks.filter ctx.keep)).cases with
    ⟨cls, hb, hp⟩ | ⟨s, hb, hs⟩
  · rcases (maxBy_cases ctx.cmp (maxSetByKey List.length
      (cls.filter (fun c => decide (1 < c.length))))).cases with ⟨v, hm, hv⟩ | ⟨s, hm, hn⟩
    · have hsel : (∀ x, cnt ctx.toCluster x (v.getD []) ≤ cnt ctx.toCluster x tracks) ∧
          ∀ w, v = some w → 2 ≤ w.length := by
        cases v with
        | none => exact ⟨fun x => Nat.zero_le _, fun _ h => nomatch h⟩
        | some w => exact ⟨(selection_spec hp (hv w rfl)).2.2,
            fun _ h => Option.some.inj h ▸ (selection_spec hp (hv w rfl)).1⟩
      obtain ⟨rem, hr, hc⟩ := removeTracks_spec g (v.getD []) tracks hsel.1
      simp only [hb, hm, hr]
      exact ⟨fun x => by rw [cnt_append, Nat.add_comm]; exact hc x, rfl, hsel.2⟩
    · simp only [hb, hm]
      exact .inr hn
  · simp only [hb]
    exact .inl hs

/-- C15 `vertex_partition`: primary tracks ++ remainder is the input, as multisets modulo
`Track ==`. -/
theorem vertex_partition {ctx : Ctx} (g : ctx.Good) (tracks : List Nat) (r : Result)
    (h : findVertices ctx tracks = .ok r) :
    ∀ x, cnt ctx.toCluster x (r.primaryTracks ++ r.remainder) = cnt ctx.toCluster x tracks :=
  ((findVertices_okOr g tracks).of_ok h).1

/-- C15 `secondaries_empty`. -/
theorem secondaries_empty {ctx : Ctx} (g : ctx.Good) (tracks : List Nat) (r : Result)
    (h : findVertices ctx tracks = .ok r) : r.secondaries = [] :=
  ((findVertices_okOr g tracks).of_ok h).2.1

/-- C15 `primary_min_two`: a primary vertex is reported only with at least two tracks. -/
theorem primary_min_two {ctx : Ctx} (g : ctx.Good) (tracks : List Nat) (r : Result)
    (h : findVertices ctx tracks = .ok r) (v : List Nat) (hv : r.primary = some v) :
    2 ≤ v.length :=
  ((findVertices_okOr g tracks).of_ok h).2.2 v hv

/-- C14 (vertex bookkeeping sites): if no NaN reaches the two `partial_cmp().unwrap()`
(`sort` and `cmp` always answer), `find_vertices`' bookkeeping returns: `tracks[0]`,
`clusters.last().unwrap()`, `.last().unwrap()` and `position(..).unwrap()` are unreachable. -/
theorem vertex_total {ctx : Ctx} (g : ctx.Good) (tracks : List Nat)
    (hs : ∀ l, ctx.sort l ≠ none) (hc : ∀ a b, ctx.cmp a b ≠ none) :
    ∃ r, findVertices ctx tracks = .ok r :=
  (findVertices_okOr g tracks).total fun _ hq =>
    hq.elim (fun h => hs _ h.2) fun ⟨_, a, b, h⟩ => hc a b h

/-- C14 (vertex bookkeeping sites, converse): whenever the bookkeeping of `find_vertices`
panics, the site is one of the two `partial_cmp().unwrap()` (the sort of `beamline_clusters`,
the `max_by` on `Σ r`) and a NaN reached it. -/
theorem vertex_panic_sites {ctx : Ctx} (g : ctx.Good) (tracks : List Nat) (s : String)
    (h : findVertices ctx tracks = .panic s) :
    (s = "beamline_clusters:partial_cmp" ∧ ∃ l, ctx.sort l = none) ∨
    (s = "find_vertices:partial_cmp" ∧ ∃ a b, ctx.cmp a b = none) :=
  ((findVertices_okOr g tracks).of_panic h).imp_left fun ⟨e, hs⟩ => ⟨e, _, hs⟩

/-! ### Non-vacuity -/

/-- Tracks are numbers; `z` is the tens digit (tracks within one decade are `close`), the
radius sum is the sum of the numbers, tracks ≥ 90 fail the filters. -/
def exCtx : Ctx where
  eq := fun a b => a == b
  keep := fun a => a < 90
  sort := fun l => some l
  close := fun a b => a / 10 == b / 10
  cmp := fun a b => some (compare a.sum b.sum)

theorem exCtx_good : exCtx.Good where
  eq_refl := by intro a; simp [exCtx]
  eq_symm := by intro a b h; simp [exCtx] at *; omega
  eq_trans := by intro a b c h1 h2; simp [exCtx] at *; omega
  sort_perm := by intro l l' h; simp [exCtx] at h; subst h; exact List.Perm.refl _

-- two clusters of two tracks (tie in size); `max_by` keeps the last maximal radius sum
example : findVertices exCtx [11, 12, 95, 31, 32, 50] = .ok ⟨some [31, 32], [], [11, 12, 95, 50]⟩ := by
  decide
example : findVertices exCtx [11, 95, 31, 50] = .ok ⟨none, [], [11, 95, 31, 50]⟩ := by decide
example : findVertices exCtx [] = .ok ⟨none, [], []⟩ := by decide

end AlphaG.Vertexing
