import AlphaG.Props.C03
/-
C03 — converse round trip: every field tuple within the documented widths (known device id,
chip ≤ 3, flags ≤ 1, payload of 1..=65535 bytes) is reproduced by decoding its encoding,
`decodeChunk (encodeChunk c) = .ok c`; with `chunk_roundtrip` the accepted slices and the
well-formed chunks are in bijection. `chunk_decoded_wf` shows the hypothesis is exactly what the
decoder emits.
-/
namespace AlphaG.Chunk
open AlphaG.Crc

/-- A field tuple within the documented widths: known device, chip ≤ 3, flags ≤ 1, payload of
1..=65535 bytes. -/
structure WfChunk (c : Chunk) : Prop where
  device : c.deviceId ∈ knownDeviceIds
  pseq : c.packetSequence < 2 ^ 32
  cseq : c.channelSequence < 2 ^ 16
  chip : c.channelId ≤ 3
  flags : c.flags ≤ 1
  cid : c.chunkId < 2 ^ 16
  lenPos : 1 ≤ c.payload.length
  lenMax : c.payload.length < 2 ^ 16

theorem knownDeviceIds_lt : ∀ id ∈ knownDeviceIds, id < 2 ^ 32 := by decide

theorem headerBytes_length (c : Chunk) : (headerBytes c).length = 16 := by
  simp only [headerBytes, List.length_append, leBytes_length]

theorem paddedPayload_length (c : Chunk) :
    (paddedPayload c).length = c.payload.length + padLen c.payload.length := by
  simp [paddedPayload]

theorem encodeChunk_length (c : Chunk) :
    (encodeChunk c).length = 24 + (c.payload.length + padLen c.payload.length) := by
  simp only [encodeChunk, List.length_append, headerBytes_length, paddedPayload_length,
    leBytes_length]
  omega

theorem take_encodeChunk (c : Chunk) : (encodeChunk c).take 16 = headerBytes c := by
  rw [encodeChunk, List.append_assoc, List.append_assoc, List.take_left' (headerBytes_length c)]

theorem drop_encodeChunk (c : Chunk) :
    (encodeChunk c).drop 20 = paddedPayload c ++ leBytes (payloadCrcVal c) 4 := by
  rw [encodeChunk, List.append_assoc, List.drop_left' (by
    simp only [List.length_append, headerBytes_length, leBytes_length])]

/-- Reading back the 20 header bytes of an encoding: every field truncated to its width. -/
theorem encodeChunk_header (c : Chunk) :
    leAt (encodeChunk c) 0 4 = c.deviceId % 256 ^ 4
      ∧ leAt (encodeChunk c) 4 4 = c.packetSequence % 256 ^ 4
      ∧ leAt (encodeChunk c) 8 2 = c.channelSequence % 256 ^ 2
      ∧ byteAt (encodeChunk c) 10 = c.channelId % 256 ^ 1
      ∧ byteAt (encodeChunk c) 11 = c.flags % 256 ^ 1
      ∧ leAt (encodeChunk c) 12 2 = c.chunkId % 256 ^ 2
      ∧ leAt (encodeChunk c) 14 2 = c.payload.length % 256 ^ 2
      ∧ leAt (encodeChunk c) 16 4 = headerCrcVal c % 256 ^ 4 := by
  simp only [byteAt_eq_leAt, encodeChunk, headerBytes, List.append_assoc, leBytes_length,
    leAt_append_right, leAt_append_left, leAt_leBytes, Nat.reduceAdd, Nat.reduceLeDiff,
    Nat.reduceSub, Nat.le_refl, and_self]

/-- C03 (converse round trip): decoding the encoding of a well-formed field tuple gives it back.
The fields are read back out of `encodeChunk c` one by one and handed to `decode_ok_iff`. -/
theorem chunk_encode_decode (c : Chunk) (h : WfChunk c) : decodeChunk (encodeChunk c) = .ok c := by
  obtain ⟨hd, hp, hcs, hch, hfl, hci, hl1, hl2⟩ := h
  have hdev := knownDeviceIds_lt _ hd
  have hcrc : headerCrcVal c < 2 ^ 32 := crcInv_lt _
  have hP := paddedPayload_length c
  have hpad := padLen_eq c.payload.length
  have hlen := encodeChunk_length c
  have hdrop := drop_encodeChunk c
  obtain ⟨e0, e4, e8, e10, e11, e12, e14, e16⟩ := encodeChunk_header c
  rw [Nat.mod_eq_of_lt (by omega)] at e0 e4 e8 e10 e11 e12 e14 e16
  have epadded :
      ((encodeChunk c).drop 20).take ((encodeChunk c).length - 24) = paddedPayload c := by
    rw [hdrop, hlen, List.take_left' (by rw [hP]; omega)]
  have epayload : ((encodeChunk c).drop 20).take c.payload.length = c.payload := by
    rw [hdrop, paddedPayload, List.append_assoc, List.take_left' rfl]
  have elast : leAt (encodeChunk c) ((encodeChunk c).length - 4) 4 = payloadCrcVal c := by
    rw [show (encodeChunk c).length - 4 = 20 + (paddedPayload c).length by omega,
      ← leAt_drop, hdrop, leAt_append_right _ _ _ _ (Nat.le_refl _), Nat.sub_self, leAt_leBytes]
    exact Nat.mod_eq_of_lt (crcInv_lt _)
  have ezero := (eq_replicate_zero_iff (encodeChunk c) (20 + c.payload.length)
    (padLen c.payload.length) (by omega)).1 (by
      rw [← List.drop_drop, hdrop, paddedPayload, List.append_assoc, List.drop_left' rfl,
        List.take_left' List.length_replicate])
  refine (decode_ok_iff _ _).2 ⟨⟨by omega, by omega, e0 ▸ hd, by omega, by omega, by omega, ?_, ?_,
    ?_⟩, ?_⟩
  · intro i h1 h2; exact ezero i (e14 ▸ h1) (by omega)
  · rw [e16, take_encodeChunk, ← crcInv_eq]; rfl
  · rw [elast, epadded, ← crcInv_eq]; rfl
  · cases c
    simp only [fields, e0, e4, e8, e10, e11, e12, e14, epayload]

/-- Every accepted chunk is a well-formed field tuple. -/
theorem chunk_decoded_wf (b : List UInt8) (c : Chunk) (h : decodeChunk b = .ok c) : WfChunk c := by
  obtain ⟨wf, rfl⟩ := (decode_ok_iff b c).1 h
  have w2 := wf.lenMin; have w6 := wf.lengthWindow
  have h14 := leAt_lt b 14 2
  have hplen := fields_payload_length b wf
  exact ⟨wf.deviceKnown, leAt_lt b 4 4, leAt_lt b 8 2, wf.chipKnown, wf.flagsKnown, leAt_lt b 12 2,
    by omega, by omega⟩

/-- Non-vacuity: the example chunk of `Props/C03` is a well-formed field tuple and its encoding
decodes back to it. -/
example : WfChunk (fields exampleChunk) := chunk_decoded_wf _ _ exampleChunk_ok
example : decodeChunk (encodeChunk (fields exampleChunk)) = .ok (fields exampleChunk) :=
  chunk_encode_decode _ (chunk_decoded_wf _ _ exampleChunk_ok)

end AlphaG.Chunk
