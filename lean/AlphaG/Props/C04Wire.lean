import AlphaG.Props.C04
import AlphaG.Props.C03Converse
import AlphaG.Model.EventChunks
/-
C03 ∘ C04 on the wire: chunk field tuples within the documented widths, encoded to bytes
(`encodeChunk`: header, both CRC-32C words, zero padding), delivered in any order, decoded bank by
bank and reassembled (`pwbFromChunkBytes`: `decodeChunk`, `toChunkV` and `Pwb.reassemble` composed as
in the event builder, which Model/Event.lean composes again on its own) give exactly the
packet that the concatenation of the payloads in id order decodes to. No byte-level or ordering
condition beyond the documented ones can make a correct transmission fail.
-/
namespace AlphaG
open Chunk Pwb

/-- Decoding the encodings of well-formed chunk tuples, bank by bank, gives the tuples back. -/
theorem decodeAll_encode (cs : List Chunk.Chunk) (hw : ∀ c ∈ cs, WfChunk c) :
    decodeAll (cs.map encodeChunk) = .ok (cs.map toChunkV) := by
  induction cs with
  | nil => rfl
  | cons c t ih =>
    have h1 := chunk_encode_decode c (hw c (by simp))
    have h2 := ih (fun x hx => hw x (by simp [hx]))
    simp only [List.map_cons, decodeAll, h1, h2]

/-- A well-formed chunk tuple satisfies the invariant the reassembly relies on (`ChunkV.Valid`). -/
theorem toChunkV_valid (c : Chunk.Chunk) (h : WfChunk c) : (toChunkV c).Valid := by
  obtain ⟨hd, _, _, hch, hfl, hci, _, hl⟩ := h
  exact ⟨(Chunk.boardOfDeviceId_some_iff c.deviceId).2 hd, hch, hfl, hci,
    by simp only [toChunkV]; omega⟩

/-- C03 ∘ C04 (wire transport): well-formed chunk tuples `cs` in id order (one board `d`, one chip
`k`, `SortedGood`), encoded and delivered in any order `l`, decode and reassemble to the packet that
their concatenated payloads decode to. -/
theorem wire_transport (cs l : List Chunk.Chunk) (p : PwbPacket) (hp : cs.Perm l)
    (hw : ∀ c ∈ cs, WfChunk c)
    (hs : (cs.map toChunkV).Pairwise (fun a b => a.chunkId ≤ b.chunkId)) (d k : Nat)
    (hdev : ∀ c ∈ cs, c.deviceId = d) (hchip : ∀ c ∈ cs, c.channelId = k)
    (g : SortedGood (cs.map toChunkV))
    (hd : decodePwb ((cs.map toChunkV).flatMap (·.payload)) = .ok p) :
    pwbFromChunkBytes (l.map encodeChunk) = .ok p := by
  have hwl : ∀ c ∈ l, WfChunk c := fun c hc => hw c (hp.mem_iff.2 hc)
  have hr := reassemble_of_sorted_perm (cs.map toChunkV) (l.map toChunkV) p (hp.map _) hs
    (List.forall_mem_map.2 fun x hx => toChunkV_valid x (hw x hx)) d k
    (List.forall_mem_map.2 hdev) (List.forall_mem_map.2 hchip) g hd
  simp only [pwbFromChunkBytes, decodeAll_encode l hwl, hr]

def kk (i fl : Nat) (p : List UInt8) : Chunk.Chunk :=
  { deviceId := 2281646316, packetSequence := 7, channelSequence := 1, channelId := 3, flags := fl,
    chunkId := i, payload := p }
def k0 : Chunk.Chunk := kk 0 0 (docPacket.take 40)
def k1 : Chunk.Chunk := kk 1 0 ((docPacket.drop 40).take 40)
def k2 : Chunk.Chunk := kk 2 1 (docPacket.drop 80)

theorem kk_wf : ∀ c ∈ [k0, k1, k2], WfChunk c := by
  intro c hc
  simp only [List.mem_cons, List.mem_nil_iff, or_false] at hc
  rcases hc with rfl | rfl | rfl <;>
    exact ⟨by decide +kernel, by decide, by decide, by decide, by decide, by decide,
      by decide +kernel, by decide +kernel⟩

/-- Non-vacuity of `wire_transport`: the three-chunk example message, encoded to chunk bytes and
delivered out of order, decodes and reassembles to the documented packet. -/
example : pwbFromChunkBytes ([k2, k0, k1].map encodeChunk) = .ok (Pwb.fields docPacket) :=
  wire_transport [k0, k1, k2] [k2, k0, k1] _ (by decide +kernel) kk_wf (by decide +kernel)
    2281646316 3 (by decide +kernel) (by decide +kernel)
    ⟨by decide +kernel, by decide, by decide +kernel, by decide +kernel, by decide +kernel⟩
    (by decide +kernel)

end AlphaG
