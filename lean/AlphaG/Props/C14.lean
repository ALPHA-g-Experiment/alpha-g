import AlphaG.Props.C15
import AlphaG.Props.C14b
import Mathlib.Algebra.Order.Field.Basic
import Mathlib.Tactic.NormNum
import Mathlib.Algebra.Order.Field.Rat
/-
C14 — reconstruction stages are total on physical inputs and return finite geometry.

This file is the inventory of panic sites of the four source files, and the logic of the sites of
the track fit on a control-flow *skeleton*: `minmax`, `minBy`, `fitSkeleton`, `clampF`/`closestT`,
`threeTemplate` below take the float-valued ingredients as parameters (`FitEnv`) and replace the
minimiser by one Boolean, `costNaN`. The fits as the code runs them are modelled in
`Model/TrackInit.lean` (template points, initial simplex), `Model/NelderMead.lean` (argmin's
Nelder–Mead and both fits) and `Model/Helix.lean` (`clamp`, `closest_t`). `Props/C14b.lean` and
`Props/C14c.lean` prove the sites there, with the exact conditions where the skeleton theorems are
implications (panic ⇒ some comparison met a NaN); `Props/C16.lean` has `closest_t_range` on the model.

## Panic-site inventory (every `unwrap` / `assert!` / index of the four source files)

`cluster_spacepoints` (track_finding.rs)
  C1  `bin.try_into().unwrap()` (i32 → u32 in `get_bins`)      unreachable: the loop runs over
      `min_bin.max(0)..=max_bin`                                 → `bin_nonneg` (on free integers;
      on the model: `Hough.getBins_no_panic`, Props/C15b.lean)
  C2  `accumulator.get_mut(&bin).unwrap()`                      unreachable → `cluster_total`
  C3  `vec.iter().position(|p| *p == point).unwrap()`           unreachable → `cluster_total`
  C4  `sp.iter().position(|&p| p == point).unwrap()`            unreachable → `cluster_total`
      (C2–C4 need `==` reflexive, i.e. NaN-free points: with a NaN coordinate `p == p` is
      false and C3 fires — a NaN site in disguise.)
  —   termination of the two `loop`s                            → `cluster_total` (needs `1 ≤ min`;
      with `min = 0` the outer loop never ends on an empty accumulator; the code passes 13)
`fit_cluster_to_helix` / `three_template_points` (track_fitting.rs)
  F1  `assert!(sp.len() >= 3)`                                  unreachable for clusters made by
      `cluster_spacepoints` (≥ 13 points)                       → `fit_assert_unreachable`
  F2  `minmax_by_key(..).into_option().unwrap()`                `None` only for an empty slice
                                                                → `minmax_some` (≥ 1 point)
  F3  `min_by(|a,b| ..partial_cmp(..).unwrap())`                **NaN site**: fires only when a
      comparison of `|r − r_mid|` involves a NaN                → `minBy_total` / `minBy_panic_site`
                                                                (iff: `C14b.minByFold_panic_iff`)
  F4  `.copied().unwrap()` after `min_by`                       `None` only for an empty slice
                                                                → `minBy_total` (≥ 1 point)
      (F1–F4 and F7 together: `fit_sites_total`, `fit_sites_panic` on the skeleton;
      `C14b.fit_init_panic_sites`, `C14c.fit_panic_iff_full` on the model)
  F5  `NelderMead::new(..).with_sd_tolerance(EPSILON).unwrap()` fires for a tolerance `< 0` only
                                                                → `C14c.run_sdTol_iff`, `C14c.nm_cases`
  F6  `Executor::run().unwrap()`                                unreachable → `C14c.nm_cases`
  F7  `assert!(!val.is_nan())` in `cost`                        **NaN site**, the only panic of the
                                                                minimiser → `C14c.nm_panic_only_cost`
  F8  `res.state.best_param.unwrap()`                           unreachable → `C14c.nm_cases`
  F9  `best_params[0..=5]`, `p[0..=5]`                          unreachable (6 parameters in, 6 out)
                                                                → `C14c.nm_cases`, `C14c.fit_cases`
  —   `f64::clamp(-PI, PI)` asserts `min <= max`                constants
  —   exact collinearity: `NoInitialParameters` is returned before
      `circle_through_three_points` can divide by zero          → `collinear_rejected`,
                                                                `C14b.guard_iff_circle_defined`
`find_vertices` / `beamline_clusters` (vertex_fitting.rs)
  B1  `sort_unstable_by(..partial_cmp(..).unwrap())`            **NaN site**
  B2  `tracks[0]` (after `is_empty` return)                     unreachable → `vertex_total`
  B3  `clusters.last().unwrap()`, `.last().unwrap()`,
      `clusters.last_mut().unwrap()`                            unreachable → `vertex_total`
  V1  `max_by(..partial_cmp(..).unwrap())` on `Σ r`             **NaN site**
  V2–V5 as F5, F6, F8, F9 (3 parameters)                        → `C14c.nm_cases`,
                                                                `C14c.vertex_fit_panic_sites`
  V6  `assert!(!val.is_nan())` in `cost`                        **NaN site**
  V7  `tracks.iter().position(|t| t == track).unwrap()`         unreachable → `vertex_total`
      (needs `Track ==` reflexive: NaN-free helix parameters)

`vertex_total` (Props/C15.lean) is the statement "the bookkeeping of `find_vertices` returns
whenever B1 and V1 do not see a NaN".

## Not proved

Whether a NaN *can* arise in `f64` — inside `closest_t`'s Newton iteration, `hypot/atan2`, the
complex division of `circle_through_three_points` for nearly collinear points, or Nelder–Mead's
simplex arithmetic — and hence whether F3, F7, B1, V1, V6 can fire on physical inputs, and
whether returned parameters are finite. Lean's `Float` is opaque and there is no IEEE-754
semantics to reason with. This half of C14 is covered by **adversarial sampling on the
implementation** (harness/src/c14.rs: degenerate families of the quantifier text under
`catch_unwind`), labelled as sampling in the evidence, not as proof.
-/
namespace AlphaG.C14

/-- C14 `cluster_total`: see `AlphaG.Cluster.cluster_total`. -/
theorem cluster_total {ctx : AlphaG.Cluster.Ctx} (g : ctx.Good) (min : Nat) (hmin : 1 ≤ min)
    (sp : List Nat) : ∃ r, AlphaG.Cluster.cluster ctx min sp = .ok r :=
  AlphaG.Cluster.cluster_total g min hmin sp

/-- C1: every `bin` of `min_bin.max(0)..=max_bin` converts to `u32`. -/
theorem bin_nonneg (minBin maxBin bin : Int) (h : max minBin 0 ≤ bin) (_ : bin ≤ maxBin) :
    0 ≤ bin := by omega

/-- F1: the `assert!(sp.len() >= 3)` of `fit_cluster_to_helix` cannot fire on a cluster
produced by `cluster_spacepoints` (which passes `min = 13`), nor can F2/F4 (`≥ 1` point). -/
theorem fit_assert_unreachable {ctx : AlphaG.Cluster.Ctx} (g : ctx.Good) (sp : List Nat)
    (r : AlphaG.Cluster.Result) (h : AlphaG.Cluster.cluster ctx 13 sp = .ok r) :
    ∀ c ∈ r.clusters, 3 ≤ c.length := by
  intro c hc
  have := AlphaG.Cluster.cluster_min_size g 13 (by omega) sp r h c hc
  omega

inductive FitErr where
  | noInitialParameters
deriving DecidableEq

/-- `Itertools::minmax_by_key(..).into_option()`: `None` exactly for an empty slice.
(`lt a b` is the `PartialOrd` `<` on the keys; a NaN key makes the *choice* arbitrary but
never panics.) An element-by-element fold; itertools' `minmax_impl` consumes the slice in pairs
(Model/TrackInit `minmaxLoop`) and agrees with this fold for a total order only
(`C14b.minmaxLoop_eq`); only the `none` case is used below. -/
def minmax {α : Type} (lt : α → α → Bool) : List α → Option (α × α)
  | [] => none
  | a :: l => some (l.foldl (fun mm x =>
      (if lt x mm.1 then x else mm.1, if lt x mm.2 then mm.2 else x)) (a, a))

theorem minmax_some {α : Type} (lt : α → α → Bool) (l : List α) (h : 1 ≤ l.length) :
    (minmax lt l).isSome = true := by
  cases l with
  | nil => simp at h
  | cons a l => rfl

theorem minmax_none_iff {α : Type} (lt : α → α → Bool) (l : List α) :
    minmax lt l = none ↔ l = [] := by
  cases l <;> simp [minmax]

/-- `Iterator::min_by(|a, b| f(a).partial_cmp(&f(b)).unwrap())`:
`fold(first, |x, y| match compare(&x, &y) { Greater => y, _ => x })`; `cmp = none` is a NaN
reaching the `unwrap`. -/
def minByFold {α : Type} (cmp : α → α → Option Ordering) : α → List α → Outcome Unit α
  | best, [] => .ok best
  | best, x :: l =>
    match cmp best x with
    | none => .panic "three_template_points:partial_cmp"
    | some .gt => minByFold cmp x l
    | some _ => minByFold cmp best l

def minBy {α : Type} (cmp : α → α → Option Ordering) : List α → Outcome Unit (Option α)
  | [] => .ok none
  | a :: l =>
    match minByFold cmp a l with
    | .ok b => .ok (some b)
    | .err e => .err e
    | .panic s => .panic s

theorem minByFold_cases {α : Type} (cmp : α → α → Option Ordering) (l : List α) (best : α) :
    (∃ b, minByFold cmp best l = .ok b) ∨
    (minByFold cmp best l = .panic "three_template_points:partial_cmp" ∧ ∃ a b, cmp a b = none) := by
  induction l generalizing best with
  | nil => exact .inl ⟨best, rfl⟩
  | cons x l ih =>
    rw [minByFold]
    cases hc : cmp best x with
    | none => exact .inr ⟨rfl, best, x, hc⟩
    | some o =>
      cases o with
      | gt => exact ih x
      | lt => exact ih best
      | eq => exact ih best

theorem minBy_cases {α : Type} (cmp : α → α → Option Ordering) (l : List α) :
    (minBy cmp l = .ok none ∧ l = []) ∨ (∃ b, minBy cmp l = .ok (some b)) ∨
    (minBy cmp l = .panic "three_template_points:partial_cmp" ∧ ∃ a b, cmp a b = none) := by
  cases l with
  | nil => exact .inl ⟨rfl, rfl⟩
  | cons a l =>
    rw [minBy]
    rcases minByFold_cases cmp l a with ⟨b, h⟩ | ⟨h, hn⟩ <;> rw [h]
    · exact .inr (.inl ⟨b, rfl⟩)
    · exact .inr (.inr ⟨rfl, hn⟩)

/-- F3/F4: with at least one point and no NaN in the compared keys, `min_by(..).unwrap()`
returns a point. -/
theorem minBy_total {α : Type} (cmp : α → α → Option Ordering) (hall : ∀ a b, cmp a b ≠ none)
    (l : List α) (h : 1 ≤ l.length) : ∃ b, minBy cmp l = .ok (some b) := by
  obtain ⟨_, rfl⟩ | hb | ⟨_, a, b, hn⟩ := minBy_cases cmp l
  · cases h
  · exact hb
  · exact absurd hn (hall a b)

/-- F3 is the only panic of `min_by`: it panics only with that site, and only if some
comparison met a NaN. -/
theorem minBy_panic_site {α : Type} (cmp : α → α → Option Ordering) (l : List α) (s : String)
    (h : minBy cmp l = .panic s) :
    s = "three_template_points:partial_cmp" ∧ ∃ a b, cmp a b = none := by
  obtain ⟨h', _⟩ | ⟨b, h'⟩ | ⟨h', hn⟩ := minBy_cases cmp l <;> rw [h] at h'
  · cases h'
  · cases h'
  · exact ⟨Outcome.panic.inj h', hn⟩

/-- The float-valued ingredients of the fit, abstracted: the `<` on `p.r` used by
`minmax_by_key`, the `partial_cmp` of `|r − r_mid|` (`none` = a NaN operand), the exact
collinearity test on `(first, middle, last)`, and whether some evaluation of the cost function
by the minimiser yields a NaN (`assert!(!val.is_nan())`). -/
structure FitEnv (α : Type) where
  ltR : α → α → Bool
  cmpMid : α → α → Option Ordering
  collinear : α → α → α → Bool
  costNaN : Bool

/-- `assert!(len >= 3)`, `minmax(..).unwrap()`, `min_by(..unwrap()).unwrap()`, the collinearity
rejection, then the minimiser, whose only panic is the cost-function assert
(`C14c.nm_panic_only_cost`). -/
def fitSkeleton {α : Type} (env : FitEnv α) (points : List α) : Outcome FitErr Unit :=
  need "fit:assert_len" (decide (3 ≤ points.length)) <|
  match minmax env.ltR points with
  | none => .panic "three_template_points:minmax"
  | some fl =>
    match minBy env.cmpMid points with
    | .panic s => .panic s
    | .err _ => .panic "unreachable"
    | .ok none => .panic "three_template_points:min_by"
    | .ok (some middle) =>
      if env.collinear fl.1 middle fl.2 then .err .noInitialParameters
      else if env.costNaN then .panic "track_fitting::cost_function:nan"
      else .ok ()

theorem fitSkeleton_cases {α : Type} (env : FitEnv α) (points : List α) (h3 : 3 ≤ points.length) :
    fitSkeleton env points = .ok () ∨ fitSkeleton env points = .err .noInitialParameters ∨
    (fitSkeleton env points = .panic "three_template_points:partial_cmp" ∧
      ∃ a b, env.cmpMid a b = none) ∨
    (fitSkeleton env points = .panic "track_fitting::cost_function:nan" ∧ env.costNaN = true) := by
  unfold fitSkeleton
  rw [need_eq (decide_eq_true h3)]
  cases hmm : minmax env.ltR points with
  | none => rw [(minmax_none_iff _ _).1 hmm] at h3; cases h3
  | some fl =>
    obtain ⟨_, rfl⟩ | ⟨mid, h⟩ | ⟨h, hn⟩ := minBy_cases env.cmpMid points
    · cases h3
    · simp only [h]
      by_cases hc : env.collinear fl.1 mid fl.2 = true
      · rw [if_pos hc]; exact .inr (.inl rfl)
      · rw [if_neg hc]
        by_cases hn : env.costNaN = true
        · rw [if_pos hn]; exact .inr (.inr (.inr ⟨rfl, hn⟩))
        · rw [if_neg hn]; exact .inl rfl
    · rw [h]; exact .inr (.inr (.inl ⟨rfl, hn⟩))

/-- `fit_sites`, first half: with at least 3 points (F1; guaranteed by `fit_assert_unreachable`),
no NaN in the compared `|r − r_mid|` (F3) and no NaN cost (F7), the fit returns a track or
`NoInitialParameters`; F2 and F4 are unreachable. -/
theorem fit_sites_total {α : Type} (env : FitEnv α) (points : List α) (h3 : 3 ≤ points.length)
    (hcmp : ∀ a b, env.cmpMid a b ≠ none) (hcost : env.costNaN = false) :
    fitSkeleton env points = .ok () ∨ fitSkeleton env points = .err .noInitialParameters := by
  obtain h | h | ⟨_, a, b, h⟩ | ⟨_, h⟩ := fitSkeleton_cases env points h3
  · exact .inl h
  · exact .inr h
  · exact absurd h (hcmp a b)
  · rw [hcost] at h; cases h

/-- `fit_sites`, second half: with at least 3 points, a panic of the fit is F3 (a NaN reached
`partial_cmp().unwrap()`) or F7 (a NaN cost), nothing else. -/
theorem fit_sites_panic {α : Type} (env : FitEnv α) (points : List α) (h3 : 3 ≤ points.length)
    (s : String) (h : fitSkeleton env points = .panic s) :
    (s = "three_template_points:partial_cmp" ∧ ∃ a b, env.cmpMid a b = none) ∨
    (s = "track_fitting::cost_function:nan" ∧ env.costNaN = true) := by
  obtain h' | h' | ⟨h', hn⟩ | ⟨h', hn⟩ := fitSkeleton_cases env points h3 <;> rw [h] at h'
  · cases h'
  · cases h'
  · exact .inl ⟨Outcome.panic.inj h', hn⟩
  · exact .inr ⟨Outcome.panic.inj h', hn⟩

/-- A float is `none` (NaN) or a value of a linearly ordered carrier; comparisons with NaN are
false, as in IEEE-754. -/
def fLt {K : Type} [LT K] [DecidableLT K] (a b : Option K) : Bool :=
  match a, b with
  | some x, some y => decide (x < y)
  | _, _ => false

/-- `f64::clamp(self, min, max)`: `if self < min { self = min } if self > max { self = max } self`
(the `assert!(min <= max)` is a hypothesis of the theorem; the code passes `-PI, PI`). -/
def clampF {K : Type} [LT K] [DecidableLT K] (x : Option K) (lo hi : K) : Option K :=
  if fLt (some hi) (if fLt x (some lo) then some lo else x) then some hi
  else (if fLt x (some lo) then some lo else x)

/-- `Helix::closest_t`: the circle branch (`|h| < EPSILON`) returns `atan2(det, dot)`
unclamped ("atan2 is already in [-pi, pi]"), the general branch clamps the Newton result. -/
def closestT {K : Type} [LT K] [DecidableLT K] (hSmall : Bool) (atan2Val newtonVal : Option K)
    (negPi pi : K) : Option K :=
  if hSmall then atan2Val else clampF newtonVal negPi pi

theorem clampF_range {K : Type} [LinearOrder K] (x : Option K) (lo hi t : K) (hle : lo ≤ hi)
    (h : clampF x lo hi = some t) : lo ≤ t ∧ t ≤ hi := by
  unfold clampF at h
  cases x with
  | none => simp [fLt] at h
  | some v =>
    by_cases h1 : v < lo
    · have h2 : ¬ hi < lo := not_lt.2 hle
      simp [fLt, h1, h2] at h
      subst h; exact ⟨le_refl _, hle⟩
    · by_cases h2 : hi < v
      · simp [fLt, h1, h2] at h
        subst h; exact ⟨hle, le_refl _⟩
      · simp [fLt, h1, h2] at h
        subst h; exact ⟨not_lt.1 h1, not_lt.1 h2⟩

/-- NaN passes through `clamp` (which is why the range statement is conditional). -/
theorem clampF_nan {K : Type} [LinearOrder K] (lo hi : K) : clampF (none : Option K) lo hi = none := by
  simp [clampF, fLt]

/-- C14 `closest_t_range`: when the value returned by `closest_t` is not NaN it lies in
`[-π, π]` — by the clamp in the general branch, and under the `atan2` range contract in the
circle branch. -/
theorem closest_t_range {K : Type} [LinearOrder K] (hSmall : Bool) (atan2Val newtonVal : Option K)
    (negPi pi t : K) (hpi : negPi ≤ pi)
    (hatan2 : ∀ v, atan2Val = some v → negPi ≤ v ∧ v ≤ pi)
    (h : closestT hSmall atan2Val newtonVal negPi pi = some t) : negPi ≤ t ∧ t ≤ pi := by
  unfold closestT at h
  cases hSmall with
  | true => exact hatan2 t (by simpa using h)
  | false => exact clampF_range newtonVal negPi pi t hpi (by simpa using h)

section Collinear
variable {K : Type} [Field K] [LinearOrder K] [IsStrictOrderedRing K]

/-- The test of `three_template_points` (`first = 1`, `middle = 2`, `last = 3`):
`(last.x − first.x) * (middle.y − first.y) == (middle.x − first.x) * (last.y − first.y)`. -/
def collinearTest (x1 y1 x2 y2 x3 y3 : K) : Prop :=
  (x3 - x1) * (y2 - y1) = (x2 - x1) * (y3 - y1)

/-- Tail of `three_template_points`. -/
noncomputable def threeTemplate (x1 y1 x2 y2 x3 y3 : K) : Except FitErr Unit :=
  open Classical in
  if collinearTest x1 y1 x2 y2 x3 y3 then .error .noInitialParameters else .ok ()

/-- `num_complex` division `(a + bi) / (c + di)`. -/
noncomputable def cdiv (a b c d : K) : K × K :=
  ((a * c + b * d) / (c * c + d * d), (b * c - a * d) / (c * c + d * d))

/-- `w = (z3 − z1) / (z2 − z1)` of `circle_through_three_points(first, middle, last)`. -/
noncomputable def wOf (x1 y1 x2 y2 x3 y3 : K) : K × K := cdiv (x3 - x1) (y3 - y1) (x2 - x1) (y2 - y1)

/-- `w − conj w = (0, 2·Im w)`: the divisor of `c_prime`. -/
noncomputable def wMinusConj (x1 y1 x2 y2 x3 y3 : K) : K × K :=
  ((wOf x1 y1 x2 y2 x3 y3).1 - (wOf x1 y1 x2 y2 x3 y3).1,
   (wOf x1 y1 x2 y2 x3 y3).2 - -(wOf x1 y1 x2 y2 x3 y3).2)

/-- C14 `collinear_rejected`.
(1) `three_template_points` returns `NoInitialParameters` exactly when the two cross-product
    expressions are equal.
(2) When it does not, both complex divisions of `circle_through_three_points` have a non-zero
    divisor: `z2 − z1 ≠ 0` and `w − conj w ≠ 0`.
(3) Conversely the test "exactly matches a fail mode": if the expressions are equal then
    `z2 = z1` or `w − conj w = 0` — the division that would produce `0/0` or `x/0`. -/
theorem collinear_rejected (x1 y1 x2 y2 x3 y3 : K) :
    (threeTemplate x1 y1 x2 y2 x3 y3 = .error .noInitialParameters
        ↔ collinearTest x1 y1 x2 y2 x3 y3) ∧
    (¬ collinearTest x1 y1 x2 y2 x3 y3 →
        (x2 - x1) * (x2 - x1) + (y2 - y1) * (y2 - y1) ≠ 0 ∧
        wMinusConj x1 y1 x2 y2 x3 y3 ≠ (0, 0)) ∧
    (collinearTest x1 y1 x2 y2 x3 y3 →
        (x2 - x1 = 0 ∧ y2 - y1 = 0) ∨ wMinusConj x1 y1 x2 y2 x3 y3 = (0, 0)) := by
  -- `w − conj w = (0, 2 Im w)`, and `Im w` is the cross product over `|z2 − z1|²`
  have hw : wMinusConj x1 y1 x2 y2 x3 y3 = (0, 0) ↔ (wOf x1 y1 x2 y2 x3 y3).2 = 0 := by
    rw [wMinusConj, sub_self, sub_neg_eq_add, Prod.mk.injEq, eq_self_iff_true, true_and,
      ← two_mul, mul_eq_zero, or_iff_right two_ne_zero]
  have key : ¬ collinearTest x1 y1 x2 y2 x3 y3 ↔ _ ∧ (wOf x1 y1 x2 y2 x3 y3).2 ≠ 0 :=
    C14b.cross_ne_iff (x2 - x1) (y2 - y1) (x3 - x1) (y3 - y1)
  refine ⟨?_, fun hn => (key.1 hn).imp_right (mt hw.1), fun hc => or_iff_not_imp_left.2 fun hne => ?_⟩
  · by_cases h : collinearTest x1 y1 x2 y2 x3 y3 <;> simp [threeTemplate, h]
  · exact hw.2 (by_contra fun him => key.2 ⟨mt mul_self_add_mul_self_eq_zero.1 hne, him⟩ hc)

/-- Non-vacuity: three points of the unit circle are not collinear; three points of a line are. -/
example : ¬ collinearTest (1 : ℚ) 0 0 1 (-1) 0 := by unfold collinearTest; norm_num
example : collinearTest (1 : ℚ) 1 2 2 3 3 := by unfold collinearTest; norm_num

end Collinear

end AlphaG.C14
