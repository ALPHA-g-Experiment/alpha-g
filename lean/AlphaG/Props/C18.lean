import AlphaG.Lemmas.DriftValue
import AlphaG.Lemmas.DriftBits
import AlphaG.Lemmas.DriftTablesOk
import Mathlib.Algebra.Order.Field.Rat
/-
C18 — drift-time lookup is bounded, monotone, continuous and symmetric.

Model: `AlphaG/Model/Drift.lean` (`tableAt` = `DriftTable::at`, `tablesAt` = `DriftTables::at`,
`spacePoint` = `TryFrom<Avalanche> for SpacePoint`), instantiated here with the exact arithmetic
of an arbitrary linear ordered field `K` (`fieldOps K`). The theorems hold for *any* tables
satisfying `TablesOk`; `generated_*` and `step_bound_partial` instantiate them with the generated
table (`exactTables K driftBits`: the f64 values held by the built code, as exact dyadic
rationals), whose `TablesOk` is re-checked by the kernel on every run
(`Lemmas/DriftTablesOk.lean`).

Not covered (declared gap): `f64` rounding, ±∞, NaN — the correspondence harness compares the
`Float` instance of the same model bit-for-bit with the Rust code.
-/
set_option linter.unusedSectionVars false

namespace AlphaG.Drift

variable {K : Type} [Field K] [LinearOrder K] [IsStrictOrderedRing K]
variable {ts : List (Slice K)}

/-- `|z|` beyond the largest tabulated bound: the axial-position error. -/
theorem lookup_err_z (ok : TablesOk ts) {z : K} (t : K) (h : zMax ts < |z|) :
    tablesAt (fieldOps K) ts z t = .err .axialPositionOutOfRange :=
  tablesAt_err_z ok.one t h

/-- the last z bound is the largest -/
theorem zMax_largest (ok : TablesOk ts) {i : Nat} (hi : i < ts.length) : zb ts i ≤ zMax ts :=
  ok.z_mono (by omega) (by have := ok.one; omega)

/-- `|z|` in the region of slice `i`, `t` before the first or after the last tabulated time of
that slice: the drift-time error. -/
theorem lookup_err_t (ok : TablesOk ts) {i : Nat} (hi : i < ts.length) {z t : K}
    (hz : InSlice ts i |z|)
    (ht : t < tFirst (sl ts i).table ∨ tLast (sl ts i).table < t) :
    tablesAt (fieldOps K) ts z t = .err .driftTimeOutOfRange := by
  rw [tablesAt_inSlice hi t hz (hz.1.trans (zMax_largest ok hi)), tableAt_eq (ok.slice i hi).two,
    if_pos ht]

/-- In range: the interpolation between two knots that bracket `t`. -/
theorem lookup_ok (ok : TablesOk ts) {i : Nat} (hi : i < ts.length) {z t : K}
    (hz : InSlice ts i |z|) (h0 : tFirst (sl ts i).table ≤ t) (h1 : t ≤ tLast (sl ts i).table) :
    ∃ l, Bracket (sl ts i).table t l ∧
      tablesAt (fieldOps K) ts z t = .ok (rOf (sl ts i).table l t, cOf (sl ts i).table l t) := by
  obtain ⟨hr1, hr, hlo, hhi⟩ := rhs_bracket (ok.slice i hi).two h0 h1
  -- the code's right index `r ≥ 1` gives the bracket `r - 1, r`
  have e : rhsIndex (fieldOps K) (sl ts i).table t - 1 + 1
      = rhsIndex (fieldOps K) (sl ts i).table t := Nat.sub_add_cancel hr1
  refine ⟨rhsIndex (fieldOps K) (sl ts i).table t - 1, ⟨by omega, hlo, by rwa [e]⟩, ?_⟩
  rw [tablesAt_inSlice hi t hz (hz.1.trans (zMax_largest ok hi)), tableAt_eq (ok.slice i hi).two,
    if_neg (by rintro (h | h); exact absurd h0 (not_le.2 h); exact absurd h1 (not_le.2 h)),
    rOf, cOf, e]

/-- What a successful lookup returned. -/
theorem lookup_ok_spec (ok : TablesOk ts) {i : Nat} (hi : i < ts.length) {z t : K} {rc : K × K}
    (hz : InSlice ts i |z|) (h : tablesAt (fieldOps K) ts z t = .ok rc) :
    tFirst (sl ts i).table ≤ t ∧ t ≤ tLast (sl ts i).table ∧
      ∃ l, Bracket (sl ts i).table t l ∧ rc = (rOf (sl ts i).table l t, cOf (sl ts i).table l t) := by
  by_cases ht : t < tFirst (sl ts i).table ∨ tLast (sl ts i).table < t
  · rw [lookup_err_t ok hi hz ht] at h; cases h
  · have h0 : tFirst (sl ts i).table ≤ t := not_lt.1 fun h => ht (Or.inl h)
    have h1 : t ≤ tLast (sl ts i).table := not_lt.1 fun h => ht (Or.inr h)
    obtain ⟨l, hb, hl⟩ := lookup_ok ok hi hz h0 h1
    rw [hl] at h
    exact ⟨h0, h1, l, hb, by cases h; rfl⟩

/-- C18 (acceptance): the lookup succeeds exactly when `|z|` does not exceed the largest
tabulated bound and `t` lies within the first and last tabulated time of the slice of `|z|`,
inclusive. -/
theorem lookup_ok_iff (ok : TablesOk ts) (z t : K) :
    (∃ rc, tablesAt (fieldOps K) ts z t = .ok rc) ↔
      |z| ≤ zMax ts ∧ ∃ i, i < ts.length ∧ InSlice ts i |z| ∧
        tFirst (sl ts i).table ≤ t ∧ t ≤ tLast (sl ts i).table := by
  constructor
  · rintro ⟨rc, h⟩
    by_cases hz : |z| ≤ zMax ts
    · obtain ⟨i, hi, his⟩ := exists_inSlice |z| hz ok.one
      obtain ⟨h0, h1, -⟩ := lookup_ok_spec ok hi his h
      exact ⟨hz, i, hi, his, h0, h1⟩
    · rw [lookup_err_z ok t (not_le.1 hz)] at h; cases h
  · rintro ⟨-, i, hi, his, h0, h1⟩
    obtain ⟨l, -, hl⟩ := lookup_ok ok hi his h0 h1
    exact ⟨_, hl⟩

/-- Every `|z|` up to the largest bound belongs to exactly one slice. -/
theorem slice_exists_unique (ok : TablesOk ts) {a : K} (h : a ≤ zMax ts) :
    ∃ i, (i < ts.length ∧ InSlice ts i a) ∧ ∀ j, InSlice ts j a → j = i := by
  obtain ⟨i, hi, his⟩ := exists_inSlice a h ok.one
  exact ⟨i, ⟨hi, his⟩, fun j hj => inSlice_unique hj his⟩

/-- C18 (bracket search): for a time within the tabulated range, `rhs_index ≥ 1` (no `- 1`
underflow at the first knot), `rhs_index < len`, and the two knots bracket `t`. -/
theorem bracket_ok {tb : List (Knot K)} (ok : SliceOk tb) {t : K} (h0 : tFirst tb ≤ t)
    (h1 : t ≤ tLast tb) :
    1 ≤ rhsIndex (fieldOps K) tb t ∧ rhsIndex (fieldOps K) tb t < tb.length ∧
      (kn tb (rhsIndex (fieldOps K) tb t - 1)).t ≤ t ∧ t ≤ (kn tb (rhsIndex (fieldOps K) tb t)).t :=
  rhs_bracket ok.two h0 h1

/-- C18 (totality): on well-formed tables no input makes the lookup panic. -/
theorem lookup_total (ok : TablesOk ts) (z t : K) : NoPanic (tablesAt (fieldOps K) ts z t) := by
  by_cases hz : |z| ≤ zMax ts
  · obtain ⟨i, hi, his⟩ := exists_inSlice |z| hz ok.one
    rw [tablesAt_inSlice hi t his hz, tableAt_eq (ok.slice i hi).two]
    split
    exacts [noPanic_err _, noPanic_ok _]
  · rw [lookup_err_z ok t (not_le.1 hz)]; exact noPanic_err _

/-- The first radius of a well-formed table is its largest, the last its smallest. -/
theorem radius_extremes {tb : List (Knot K)} (ok : SliceOk tb) {j : Nat} (hj : j < tb.length) :
    (kn tb (tb.length - 1)).r ≤ (kn tb j).r ∧ (kn tb j).r ≤ (kn tb 0).r :=
  ⟨ok.radius_anti (by omega) (by omega), ok.radius_anti (Nat.zero_le j) hj⟩

/-- C18 (range): the radius lies between the smallest and the largest radius tabulated for the
slice (by `radius_extremes`: the last and the first). -/
theorem radius_in_range (ok : TablesOk ts) {i : Nat} (hi : i < ts.length) {z t : K} {rc : K × K}
    (hz : InSlice ts i |z|) (h : tablesAt (fieldOps K) ts z t = .ok rc) :
    (kn (sl ts i).table ((sl ts i).table.length - 1)).r ≤ rc.1 ∧ rc.1 ≤ (kn (sl ts i).table 0).r := by
  obtain ⟨-, -, l, hb, rfl⟩ := lookup_ok_spec ok hi hz h
  have sok := ok.slice i hi
  obtain ⟨hlo, hhi⟩ := rOf_bounds sok hb
  exact ⟨(radius_extremes sok hb.1).1.trans hlo,
    hhi.trans (radius_extremes sok (Nat.lt_of_succ_lt hb.1)).2⟩

/-- C18 (monotone): at a fixed `z` the radius does not increase with the drift time. -/
theorem radius_antitone (ok : TablesOk ts) {z t t' : K} {rc rc' : K × K}
    (h : tablesAt (fieldOps K) ts z t = .ok rc) (h' : tablesAt (fieldOps K) ts z t' = .ok rc')
    (htt : t ≤ t') : rc'.1 ≤ rc.1 := by
  obtain ⟨-, i, hi, hz, -⟩ := (lookup_ok_iff ok z t).1 ⟨rc, h⟩
  obtain ⟨-, -, l, hb, rfl⟩ := lookup_ok_spec ok hi hz h
  obtain ⟨-, -, l', hb', rfl⟩ := lookup_ok_spec ok hi hz h'
  exact rOf_anti (ok.slice i hi) hb hb' htt

/-- C18 (symmetric), carrier-generic, no laws assumed: the lookup depends on `z` only through
`abs z`. Covers `f64` including ±0, ±∞ and NaN (`f64::abs` clears the sign bit, so
`abs (-z)` and `abs z` are the same bit pattern). -/
theorem lookup_even_generic {α : Type} (O : Ops α) (ts : List (Slice α)) (z z' t : α)
    (h : O.abs z = O.abs z') : tablesAt O ts z t = tablesAt O ts z' t := by
  unfold tablesAt
  rw [h]

/-- C18 (symmetric): the lookup is identical for `z` and `-z` (no hypothesis on the tables). -/
theorem lookup_even (ts : List (Slice K)) (z t : K) :
    tablesAt (fieldOps K) ts z t = tablesAt (fieldOps K) ts (-z) t :=
  lookup_even_generic _ ts z (-z) t (abs_neg z).symm

/-- C18 (azimuth), carrier-generic, no laws assumed (covers `f64`): the conversion succeeds
exactly when the lookup does; the space point takes the looked-up radius, the avalanche's `z`,
and `phi - correction`. -/
theorem phi_eq_generic {α : Type} (O : Ops α) (ts : List (Slice α)) (av : Avalanche α)
    (sp : SpacePoint α) :
    spacePoint O ts av = .ok sp ↔
      ∃ rc, tablesAt O ts av.z av.t = .ok rc ∧ sp = ⟨rc.1, O.sub av.phi rc.2, av.z⟩ := by
  unfold spacePoint
  cases tablesAt O ts av.z av.t with
  | ok rc =>
    exact ⟨fun h => ⟨rc, rfl, (Outcome.ok.inj h).symm⟩, fun ⟨_, h, e⟩ => by cases h; rw [e]⟩
  | err e => exact ⟨nofun, nofun⟩
  | panic s => exact ⟨nofun, nofun⟩

/-- C18 (knots): at every tabulated time the lookup returns the tabulated radius (and
correction) exactly. -/
theorem knot_exact (ok : TablesOk ts) {i : Nat} (hi : i < ts.length) {z : K}
    (hz : InSlice ts i |z|) {j : Nat} (hj : j < (sl ts i).table.length) :
    tablesAt (fieldOps K) ts z (kn (sl ts i).table j).t
      = .ok ((kn (sl ts i).table j).r, (kn (sl ts i).table j).c) := by
  have sok := ok.slice i hi
  obtain ⟨l, hb, hl⟩ := lookup_ok ok hi hz
    (sok.time_mono (Nat.zero_le j) hj) (sok.time_mono (by omega : j ≤ (sl ts i).table.length - 1) (by omega))
  rw [hl, interp_knot sok hj hb]

/-- C18 (Lorentz range): the correction lies between 0 and the slice's tabulated maximum (its
last entry; `SliceOk.corr_mono`). -/
theorem lorentz_range (ok : TablesOk ts) {i : Nat} (hi : i < ts.length) {z t : K} {rc : K × K}
    (hz : InSlice ts i |z|) (h : tablesAt (fieldOps K) ts z t = .ok rc) :
    0 ≤ rc.2 ∧ rc.2 ≤ (kn (sl ts i).table ((sl ts i).table.length - 1)).c := by
  obtain ⟨-, -, l, hb, rfl⟩ := lookup_ok_spec ok hi hz h
  have sok := ok.slice i hi
  obtain ⟨hlo, hhi⟩ := cOf_bounds sok hb
  have hl := hb.1
  exact ⟨le_trans (sok.corr_nonneg (by omega)) hlo,
    le_trans hhi (sok.corr_mono (by omega) (by omega))⟩

/-- C18 (azimuth): the space point keeps `z`, takes the looked-up radius, and its azimuth is the
avalanche azimuth minus the Lorentz correction; errors are those of the lookup. -/
theorem phi_eq (ts : List (Slice K)) (av : Avalanche K) (sp : SpacePoint K) :
    spacePoint (fieldOps K) ts av = .ok sp ↔
      ∃ rc, tablesAt (fieldOps K) ts av.z av.t = .ok rc ∧
        sp.r = rc.1 ∧ sp.phi = av.phi - rc.2 ∧ sp.z = av.z := by
  rw [phi_eq_generic]
  refine exists_congr fun rc => and_congr_right fun _ => ?_
  cases sp
  simp only [SpacePoint.mk.injEq]
  rfl

theorem spacePoint_err (ts : List (Slice K)) (av : Avalanche K) (e : Err) :
    spacePoint (fieldOps K) ts av = .err e ↔ tablesAt (fieldOps K) ts av.z av.t = .err e := by
  unfold spacePoint
  cases h : tablesAt (fieldOps K) ts av.z av.t <;> simp

/-- C18 (continuity, quantitative): two lookups at the same `z`, `t ≤ t'`, differ by at most
`M · (t' - t)` when `M` bounds the slope `(rⱼ - rⱼ₊₁)/(tⱼ₊₁ - tⱼ)` of every knot interval that
touches `[t, t']`. -/
theorem lipschitz (ok : TablesOk ts) {i : Nat} (hi : i < ts.length) {z t t' M : K} {rc rc' : K × K}
    (hz : InSlice ts i |z|)
    (h : tablesAt (fieldOps K) ts z t = .ok rc) (h' : tablesAt (fieldOps K) ts z t' = .ok rc')
    (htt : t ≤ t')
    (hM : ∀ j, j + 1 < (sl ts i).table.length → (kn (sl ts i).table j).t ≤ t' →
      t ≤ (kn (sl ts i).table (j + 1)).t →
      (kn (sl ts i).table j).r - (kn (sl ts i).table (j + 1)).r
        ≤ M * ((kn (sl ts i).table (j + 1)).t - (kn (sl ts i).table j).t)) :
    |rc'.1 - rc.1| ≤ M * (t' - t) := by
  obtain ⟨-, -, l, hb, rfl⟩ := lookup_ok_spec ok hi hz h
  obtain ⟨-, -, l', hb', rfl⟩ := lookup_ok_spec ok hi hz h'
  rw [abs_sub_comm, abs_of_nonneg (sub_nonneg.2 (rOf_anti (ok.slice i hi) hb hb' htt))]
  exact rOf_lip (ok.slice i hi) hb hb' htt hM

/-- C18 (step bound from a slope bound): if `M` bounds the slopes of the intervals touching
`[t, t']`, `t' - t ≤ D` and `M · D < B`, the two radii differ by less than `B`
(`D` = 8 ns, `B` = 0.5 mm in the property). -/
theorem step_bound_of_table (ok : TablesOk ts) {i : Nat} (hi : i < ts.length)
    {z t t' M D B : K} {rc rc' : K × K} (hz : InSlice ts i |z|)
    (h : tablesAt (fieldOps K) ts z t = .ok rc) (h' : tablesAt (fieldOps K) ts z t' = .ok rc')
    (htt : t ≤ t') (hD : t' - t ≤ D) (hM0 : 0 ≤ M) (hMD : M * D < B)
    (hM : ∀ j, j + 1 < (sl ts i).table.length → (kn (sl ts i).table j).t ≤ t' →
      t ≤ (kn (sl ts i).table (j + 1)).t →
      (kn (sl ts i).table j).r - (kn (sl ts i).table (j + 1)).r
        ≤ M * ((kn (sl ts i).table (j + 1)).t - (kn (sl ts i).table j).t)) :
    |rc'.1 - rc.1| < B :=
  lt_of_le_of_lt (le_trans (lipschitz ok hi hz h h' htt hM) (mul_le_mul_of_nonneg_left hD hM0)) hMD

/-- C18 (step bound from per-interval bounds): if every knot interval touching `[t, t']`
satisfies `|Δr| · D < B · Δt`, two lookups at most `D` apart differ by less than `B`. -/
theorem step_bound_of_intervals (ok : TablesOk ts) {i : Nat} (hi : i < ts.length)
    {z t t' D B : K} {rc rc' : K × K} (hB : 0 < B) (hz : InSlice ts i |z|)
    (h : tablesAt (fieldOps K) ts z t = .ok rc) (h' : tablesAt (fieldOps K) ts z t' = .ok rc')
    (htt : t ≤ t') (hD : t' - t ≤ D)
    (hI : ∀ j, j + 1 < (sl ts i).table.length → (kn (sl ts i).table j).t ≤ t' →
      t ≤ (kn (sl ts i).table (j + 1)).t →
      |(kn (sl ts i).table j).r - (kn (sl ts i).table (j + 1)).r| * D
        < B * ((kn (sl ts i).table (j + 1)).t - (kn (sl ts i).table j).t)) :
    |rc'.1 - rc.1| < B := by
  have sok := ok.slice i hi
  obtain ⟨M, hM0, hMD, hM⟩ := exists_slope_bound (D := D) hB (sl ts i).table.length
    (fun j => (kn (sl ts i).table j).r - (kn (sl ts i).table (j + 1)).r)
    (fun j => (kn (sl ts i).table (j + 1)).t - (kn (sl ts i).table j).t)
    (fun j => j + 1 < (sl ts i).table.length ∧ (kn (sl ts i).table j).t ≤ t' ∧
      t ≤ (kn (sl ts i).table (j + 1)).t)
    (fun j _ hj => ⟨sub_pos.2 (sok.time_lt j hj.1), by
      have := hI j hj.1 hj.2.1 hj.2.2
      rwa [abs_of_nonneg (sub_nonneg.2 (sok.radius_ge j hj.1))] at this⟩)
  exact step_bound_of_table ok hi hz h h' htt hD hM0 hMD
    (fun j hj h1 h2 => hM j (by omega) ⟨hj, h1, h2⟩)

open AlphaG.Generated

/-- The shipped tables are well formed: 92 slices with at least 2 knots, times strictly
ascending, radii non-increasing, corrections non-decreasing from 0, z bounds positive and
ascending (kernel decision in `Lemmas/DriftTablesOk.lean`). -/
theorem generated_tables_ok : TablesOk (exactTables K driftBits) :=
  tablesOk_of_check driftBits_slices_ok driftBits_z_ok

/-- C18 on the shipped tables: acceptance. -/
theorem generated_lookup_ok_iff (z t : K) :
    (∃ rc, tablesAt (fieldOps K) (exactTables K driftBits) z t = .ok rc) ↔
      |z| ≤ zMax (exactTables K driftBits) ∧ ∃ i, i < (exactTables K driftBits).length ∧
        InSlice (exactTables K driftBits) i |z| ∧
        tFirst (sl (exactTables K driftBits) i).table ≤ t ∧
        t ≤ tLast (sl (exactTables K driftBits) i).table :=
  lookup_ok_iff generated_tables_ok z t

/-- C18 on the shipped tables: no panic. -/
theorem generated_lookup_total (z t : K) :
    NoPanic (tablesAt (fieldOps K) (exactTables K driftBits) z t) :=
  lookup_total generated_tables_ok z t

/-
Full-strength statement (FALSE for the shipped data, finding F5: 134 knot intervals of the first
150 ns have a slope of 0.5 mm / 8 ns or more, worst 0.652 mm in slice 72, knot 17):

  theorem step_bound : tablesAt … z t = .ok rc → tablesAt … z t' = .ok rc' →
      t ≤ t' → t' - t ≤ 8 / 10^9 → |rc'.1 - rc.1| < 1 / 2000

Proved instead: the same conclusion whenever no knot interval touching `[t, t']` is in the
generated exception list `driftStepExceptions` (hypothesis `hE`), and
`step_exceptions_known`: every generated exception is in the committed list
`/verif/known_drift_exceptions.json`, so that a new interval over 0.5 mm fails the build.
-/

/-- C18 (8 ns step, partial): on the shipped tables two lookups at the same `z` at most 8 ns apart
differ by less than 0.5 mm, provided no knot interval `[tⱼ, tⱼ₊₁]` of the slice that touches
`[t, t']` is one of the listed exceptions. -/
theorem step_bound_partial {i : Nat} (hi : i < (exactTables K driftBits).length)
    {z t t' : K} {rc rc' : K × K} (hz : InSlice (exactTables K driftBits) i |z|)
    (h : tablesAt (fieldOps K) (exactTables K driftBits) z t = .ok rc)
    (h' : tablesAt (fieldOps K) (exactTables K driftBits) z t' = .ok rc')
    (htt : t ≤ t') (hD : t' - t ≤ 8 / 1000000000)
    (hE : ∀ j, j + 1 < (sl (exactTables K driftBits) i).table.length →
      (kn (sl (exactTables K driftBits) i).table j).t ≤ t' →
      t ≤ (kn (sl (exactTables K driftBits) i).table (j + 1)).t → (i, j) ∉ driftStepExceptions) :
    |rc'.1 - rc.1| < 1 / 2000 := by
  have hi' : i < driftBits.length := by rwa [exactTables_length] at hi
  refine step_bound_of_intervals generated_tables_ok hi (by norm_num) hz h h' htt hD ?_
  intro j hj h1 h2
  have hne := hE j hj h1 h2
  rw [sl_exact driftBits hi'] at hj ⊢
  dsimp only at hj ⊢
  rw [List.length_map] at hj
  rw [kn_map _ _ (by omega : j < (bs driftBits i).1.length), kn_map _ _ hj]
  exact step_of_check (by rw [bs_eq_getElem hi']; exact driftBits_step_ok i hi') j hj
    fun hm => hne (mem_exceptionsOf.1 hm)

/-- No exception outside the committed list `/verif/known_drift_exceptions.json`. -/
theorem step_exceptions_known : ∀ e ∈ driftStepExceptions, e ∈ driftStepKnown := by
  intro e he
  have := List.all_eq_true.1 driftStepExceptions_known e he
  simpa using this

/-- The hypotheses are satisfiable: the shipped tables over ℚ, and a successful lookup at
`z = 0` at the first tabulated time of slice 0. -/
example : TablesOk (exactTables ℚ driftBits) := generated_tables_ok

example : ∃ rc, tablesAt (fieldOps ℚ) (exactTables ℚ driftBits) 0
    (tFirst (sl (exactTables ℚ driftBits) 0).table) = .ok rc := by
  have ok : TablesOk (exactTables ℚ driftBits) := generated_tables_ok
  have hlen : 0 < (exactTables ℚ driftBits).length := ok.one
  rw [lookup_ok_iff ok]
  have h0 : InSlice (exactTables ℚ driftBits) 0 |(0 : ℚ)| :=
    ⟨by rw [abs_zero]; exact le_of_lt ok.z_pos, fun j hj => absurd hj (Nat.not_lt_zero _)⟩
  refine ⟨h0.1.trans (zMax_largest ok hlen), 0, hlen, h0, le_refl _, ?_⟩
  exact (ok.slice 0 hlen).time_mono (Nat.zero_le _) (by have := (ok.slice 0 hlen).two; omega)

/-- A small concrete table: two slices, interpolation at the midpoint. -/
example : tablesAt (fieldOps ℚ)
    [⟨[⟨0, 10, 0⟩, ⟨2, 6, 1⟩, ⟨4, 5, 3⟩], 1⟩, ⟨[⟨0, 9, 0⟩, ⟨3, 3, 2⟩], 2⟩] (-3/2) 1
    = .ok (7, 2/3) := by
  norm_num [tablesAt, tableAt, rhsIndex, interp, fraction, fieldOps, Ops.gt, Ops.ge, abs_of_neg,
    List.findIdx?, List.find?, List.findIdx?.go]

end AlphaG.Drift
