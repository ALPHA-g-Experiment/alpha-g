import AlphaG.Model.Basic
/-
The layer under the byte decoders' proofs: masks read as fields, the two normal forms of a flat
guard chain (`= .ok p` and `NoPanic`, each a conjunction of the guards), wire integers against
`++`/`drop`/`take` and against their own serialisation, windows of zero bytes, two's complement;
last, list facts that more than one decoder's proofs share. Core Lean only.
-/
namespace AlphaG

/-! ### Masks as fields -/

/-- The mask↔field idiom: a contiguous mask of width `w` at bit `k` selects the field
`(x / 2^k) % 2^w`. Turns every mask test of the decoders into `/`–`%` arithmetic for `omega`. -/
theorem and_mask (x w k : Nat) :
    x &&& ((2 ^ w - 1) * 2 ^ k) = ((x / 2 ^ k) % 2 ^ w) * 2 ^ k := by
  apply Nat.eq_of_testBit_eq
  intro i
  rw [Nat.testBit_and, Nat.testBit_mul_two_pow, Nat.testBit_mul_two_pow,
    Nat.testBit_two_pow_sub_one, Nat.testBit_mod_two_pow, Nat.testBit_div_two_pow]
  by_cases hk : k ≤ i
  · rw [Nat.sub_add_cancel hk, Bool.and_left_comm, Bool.and_comm (x.testBit i)]
  · rw [decide_eq_false hk, Bool.false_and, Bool.false_and, Bool.and_false]

theorem and_low (x w : Nat) : x &&& (2 ^ w - 1) = x % 2 ^ w := Nat.and_two_pow_sub_one_eq_mod x w

theorem shiftRight_and_one (x k : Nat) : (x >>> k) &&& 1 = x / 2 ^ k % 2 := by
  rw [Nat.shiftRight_eq_div_pow, show (1 : Nat) = 2 ^ 1 - 1 from rfl, and_low, Nat.pow_one]

/-- A mask test on the top field of a `k+w`-bit value is a test of the field. -/
theorem and_top_eq {x : Nat} (w k c : Nat) (h : x < 2 ^ (k + w)) :
    x &&& ((2 ^ w - 1) * 2 ^ k) = c * 2 ^ k ↔ x / 2 ^ k = c := by
  rw [and_mask, Nat.mod_eq_of_lt (Nat.div_lt_of_lt_mul (Nat.pow_add .. ▸ h)),
    Nat.mul_right_cancel_iff (Nat.two_pow_pos k)]

/-! ### Guard chains: `= .ok p`

Peeling lemmas for flat guard chains (no discharger, so `simp` stays linear). -/

theorem ok_eq_ok {ε α : Type} {a p : α} : (Outcome.ok a : Outcome ε α) = Outcome.ok p ↔ a = p := by
  rw [Outcome.ok.injEq]

/-- A two-sided `if` (the error branches drop out with `reduceCtorEq`, `and_false`, `false_or`). -/
theorem ite_eq_ok {ε α : Type} {c : Prop} [Decidable c] {x y : Outcome ε α} {p : α} :
    (if c then x else y) = Outcome.ok p ↔ (c ∧ x = Outcome.ok p) ∨ (¬c ∧ y = Outcome.ok p) := by
  by_cases h : c <;> simp [h]

theorem ite_err_eq_ok {ε α : Type} {c : Prop} [Decidable c] {e : ε} {rest : Outcome ε α} {p : α} :
    (if c then Outcome.err e else rest) = Outcome.ok p ↔ ¬c ∧ rest = Outcome.ok p := by
  by_cases h : c <;> simp [h]

theorem panic_ite_eq_ok {ε α : Type} {c : Prop} [Decidable c] {s : String} {rest : Outcome ε α}
    {p : α} : (if c then Outcome.panic s else rest) = Outcome.ok p ↔ ¬c ∧ rest = Outcome.ok p := by
  by_cases h : c <;> simp [h]

theorem ite_panic_eq_ok {ε α : Type} {c : Prop} [Decidable c] {s : String} {rest : Outcome ε α}
    {p : α} : (if c then rest else Outcome.panic s) = Outcome.ok p ↔ c ∧ rest = Outcome.ok p := by
  by_cases h : c <;> simp [h]

theorem needBytes_eq_ok {ε α : Type} {site : String} {b : List UInt8} {off k : Nat}
    {rest : Outcome ε α} {p : α} :
    needBytes site b off k rest = Outcome.ok p ↔ off + k ≤ b.length ∧ rest = Outcome.ok p :=
  ite_panic_eq_ok

theorem need_eq_ok {ε α : Type} {site : String} {c : Bool} {rest : Outcome ε α} {p : α} :
    need site c rest = Outcome.ok p ↔ c = true ∧ rest = Outcome.ok p :=
  ite_panic_eq_ok

/-- The last step of a `decode_ok_iff`: the checks amount to the specification, and on the
specification the value built is the documented one. -/
theorem and_eq_iff_of {α : Type} {G W : Prop} {v f p : α} (hG : G ↔ W) (hv : W → v = f) :
    G ∧ v = p ↔ W ∧ p = f :=
  ⟨fun ⟨g, e⟩ => ⟨hG.1 g, e ▸ hv (hG.1 g)⟩, fun ⟨w, e⟩ => ⟨hG.2 w, e ▸ hv w⟩⟩

theorem accept_iff_of_ok_iff {ε α : Type} {o : Outcome ε α} {W : Prop} {f : α}
    (h : ∀ p, o = .ok p ↔ W ∧ p = f) : (∃ p, o = .ok p) ↔ W :=
  ⟨fun ⟨p, hp⟩ => ((h p).1 hp).1, fun w => ⟨f, (h f).2 ⟨w, rfl⟩⟩⟩

theorem Outcome.isOk_iff {ε α : Type} {o : Outcome ε α} : o.isOk = true ↔ ∃ a, o = .ok a := by
  cases o <;> simp [Outcome.isOk]

/-! ### Guard chains: `NoPanic`

Totality (`panic` unreachable) is proved compositionally along the guard chain. -/
def NoPanic {ε α : Type} (o : Outcome ε α) : Prop := ∀ s, o ≠ Outcome.panic s

theorem noPanic_ok {ε α : Type} (a : α) : NoPanic (Outcome.ok a : Outcome ε α) := by
  intro s h; cases h
theorem noPanic_err {ε α : Type} (e : ε) : NoPanic (Outcome.err e : Outcome ε α) := by
  intro s h; cases h

/-! As equivalences: `simp only` with these turns `NoPanic` of a guard chain into "every panic
guard holds under the negated error conditions before it", which is arithmetic. (`omega` accepts
the nested `→`/`∧` but not a stray `True`: add `implies_true`, `and_true`.) -/
theorem noPanic_ok_iff {ε α : Type} {a : α} : NoPanic (Outcome.ok a : Outcome ε α) ↔ True :=
  iff_true_intro (noPanic_ok a)
theorem noPanic_err_iff {ε α : Type} {e : ε} : NoPanic (Outcome.err e : Outcome ε α) ↔ True :=
  iff_true_intro (noPanic_err e)
theorem noPanic_panic_iff {ε α : Type} {s : String} :
    NoPanic (Outcome.panic s : Outcome ε α) ↔ False :=
  iff_false_intro fun h => h s rfl
theorem noPanic_ite_iff {ε α : Type} {c : Prop} [Decidable c] {x y : Outcome ε α} :
    NoPanic (if c then x else y) ↔ (c → NoPanic x) ∧ (¬c → NoPanic y) := by
  by_cases hc : c <;> simp [hc]
theorem noPanic_ite_err_iff {ε α : Type} {c : Prop} [Decidable c] {e : ε} {rest : Outcome ε α} :
    NoPanic (if c then Outcome.err e else rest) ↔ (¬c → NoPanic rest) := by
  rw [noPanic_ite_iff, noPanic_err_iff, imp_true_iff, true_and]
theorem noPanic_ite_panic_iff {ε α : Type} {c : Prop} [Decidable c] {s : String}
    {rest : Outcome ε α} : NoPanic (if c then rest else Outcome.panic s) ↔ c ∧ NoPanic rest := by
  by_cases hc : c <;> simp [hc, noPanic_panic_iff]
theorem noPanic_needBytes_iff {ε α : Type} {site : String} {b : List UInt8} {off k : Nat}
    {rest : Outcome ε α} :
    NoPanic (needBytes site b off k rest) ↔ off + k ≤ b.length ∧ NoPanic rest :=
  noPanic_ite_panic_iff
theorem noPanic_need_iff {ε α : Type} {site : String} {c : Bool} {rest : Outcome ε α} :
    NoPanic (need site c rest) ↔ c = true ∧ NoPanic rest :=
  noPanic_ite_panic_iff

/-! As rules, for chains whose guards are not arithmetic and are discharged one at a time. -/
theorem noPanic_ite_err {ε α : Type} {c : Prop} [Decidable c] {e : ε} {rest : Outcome ε α}
    (h : ¬c → NoPanic rest) : NoPanic (if c then Outcome.err e else rest) :=
  noPanic_ite_err_iff.2 h
theorem noPanic_needBytes {ε α : Type} {site : String} {b : List UInt8} {off k : Nat}
    {rest : Outcome ε α} (h1 : off + k ≤ b.length) (h2 : NoPanic rest) :
    NoPanic (needBytes site b off k rest) :=
  noPanic_needBytes_iff.2 ⟨h1, h2⟩
theorem noPanic_need {ε α : Type} {site : String} {c : Bool} {rest : Outcome ε α}
    (h1 : c = true) (h2 : NoPanic rest) : NoPanic (need site c rest) :=
  noPanic_need_iff.2 ⟨h1, h2⟩

/-! ### Wire integers: bounds, splitting a field, `to_bytes ∘ from_bytes` -/

theorem leAt_lt (b : List UInt8) (off k : Nat) : leAt b off k < 256 ^ k := by
  induction k generalizing off with
  | zero => simp [leAt]
  | succ k ih =>
    have h1 := byteAt_lt b off
    have h2 := ih (off + 1)
    simp only [leAt, Nat.pow_succ]
    omega

theorem beAt_lt (b : List UInt8) (off k : Nat) : beAt b off k < 256 ^ k := by
  induction k generalizing off with
  | zero => simp [beAt]
  | succ k ih =>
    have h1 := byteAt_lt b off
    have h2 := ih (off + 1)
    simp only [beAt, Nat.pow_succ]
    have : byteAt b off * 256 ^ k ≤ 255 * 256 ^ k := Nat.mul_le_mul_right _ (by omega)
    omega

theorem beAt_two (b : List UInt8) (off : Nat) :
    beAt b off 2 = byteAt b off * 256 + byteAt b (off + 1) := by
  simp [beAt]

theorem leAt_add (b : List UInt8) (off k j : Nat) :
    leAt b off (k + j) = leAt b off k + 256 ^ k * leAt b (off + k) j := by
  induction k generalizing off with
  | zero => simp [leAt]
  | succ k ih =>
    rw [show k + 1 + j = (k + j) + 1 by omega, leAt, leAt, ih, Nat.pow_succ,
      show off + 1 + k = off + (k + 1) by omega]
    simp only [Nat.mul_add, Nat.mul_assoc, Nat.add_assoc, Nat.mul_comm (256 ^ k) 256]

theorem beAt_add (b : List UInt8) (off k j : Nat) :
    beAt b off (k + j) = beAt b off k * 256 ^ j + beAt b (off + k) j := by
  induction k generalizing off with
  | zero => simp [beAt]
  | succ k ih =>
    rw [show k + 1 + j = (k + j) + 1 by omega, beAt, beAt, ih, Nat.pow_add,
      show off + 1 + k = off + (k + 1) by omega]
    simp only [Nat.add_mul, Nat.mul_assoc, Nat.add_assoc]

theorem leBytes_length (n k : Nat) : (leBytes n k).length = k := by
  induction k generalizing n with
  | zero => rfl
  | succ k ih => simp [leBytes, ih]

theorem beBytes_length (n k : Nat) : (beBytes n k).length = k := by
  simp [beBytes, leBytes_length]

theorem beBytes_two (n : Nat) :
    beBytes n 2 = [UInt8.ofNat (n / 256 % 256), UInt8.ofNat (n % 256)] := by
  simp [beBytes, leBytes]

theorem ofNat_byteAt (b : List UInt8) (i : Nat) (h : i < b.length) :
    UInt8.ofNat (byteAt b i) = b[i] := by
  unfold byteAt
  rw [List.getD_eq_getElem?_getD, List.getElem?_eq_getElem h]
  simp

theorem ofNat_bytes (b : List UInt8) (i : Nat) : ∀ k, i + k ≤ b.length →
    (List.range k).map (fun j => UInt8.ofNat (byteAt b (i + j))) = (b.drop i).take k
  | 0, _ => by simp
  | k + 1, h => by
    have hlt : i + k < b.length := by omega
    rw [List.range_succ, List.map_append, ofNat_bytes b i k (by omega), List.take_add,
      List.drop_drop, List.drop_eq_getElem_cons hlt]
    simp only [List.map_cons, List.map_nil, ofNat_byteAt b (i + k) hlt, List.take_succ_cons,
      List.take_zero]

theorem byte_take (b : List UInt8) (off : Nat) (h : off < b.length) :
    [UInt8.ofNat (byteAt b off)] = (b.drop off).take 1 :=
  ofNat_bytes b off 1 h

/-- `to_le_bytes ∘ from_le_bytes = id` on the `k` bytes at `off`. -/
theorem leBytes_leAt (b : List UInt8) (off k : Nat) (h : off + k ≤ b.length) :
    leBytes (leAt b off k) k = (b.drop off).take k := by
  induction k generalizing off with
  | zero => simp [leBytes]
  | succ k ih =>
    have hlt : off < b.length := by omega
    have hb := byteAt_lt b off
    simp only [leBytes, leAt]
    rw [show (byteAt b off + 256 * leAt b (off + 1) k) % 256 = byteAt b off by omega]
    rw [show (byteAt b off + 256 * leAt b (off + 1) k) / 256 = leAt b (off + 1) k by omega]
    rw [ih (off + 1) (by omega), ofNat_byteAt b off hlt]
    rw [List.drop_eq_getElem_cons hlt, List.take_succ_cons]

theorem beBytes_succ (n k : Nat) :
    beBytes n (k + 1) = beBytes (n / 256) k ++ [UInt8.ofNat (n % 256)] := by
  simp [beBytes, leBytes]

/-- `to_be_bytes ∘ from_be_bytes = id` on the `k` bytes at `off`. -/
theorem beBytes_beAt (b : List UInt8) (off k : Nat) (h : off + k ≤ b.length) :
    beBytes (beAt b off k) k = (b.drop off).take k := by
  induction k with
  | zero => rfl
  | succ k ih =>
    have hb := byteAt_lt b (off + k)
    have e : beAt b off (k + 1) = beAt b off k * 256 + byteAt b (off + k) := by
      rw [beAt_add, Nat.pow_one, beAt, beAt, Nat.pow_zero, Nat.mul_one, Nat.add_zero]
    rw [beBytes_succ, e,
      show (beAt b off k * 256 + byteAt b (off + k)) / 256 = beAt b off k by omega,
      show (beAt b off k * 256 + byteAt b (off + k)) % 256 = byteAt b (off + k) by omega,
      ih (by omega), byte_take b (off + k) (by omega), ← List.drop_drop, ← List.take_add]

/-! ### Reading through `::`, `++`, `drop`, `take` -/

theorem byteAt_cons_zero (a : UInt8) (l : List UInt8) : byteAt (a :: l) 0 = a.toNat := by
  simp [byteAt]

theorem byteAt_cons_succ (a : UInt8) (l : List UInt8) (i : Nat) :
    byteAt (a :: l) (i + 1) = byteAt l i := by
  simp [byteAt]

theorem byteAt_eq_leAt (b : List UInt8) (i : Nat) : byteAt b i = leAt b i 1 := by
  simp [leAt]

theorem byteAt_append_left (a t : List UInt8) (i : Nat) (h : i < a.length) :
    byteAt (a ++ t) i = byteAt a i := by
  simp [byteAt, List.getD_eq_getElem?_getD, List.getElem?_append_left h]

/-- Stated with `i - a.length` so that `simp` can use it at literal offsets (the side condition
and the subtraction are closed by `Nat.reduceLeDiff`, `Nat.reduceSub` once the length is known). -/
theorem byteAt_append_right (a t : List UInt8) (i : Nat) (h : a.length ≤ i) :
    byteAt (a ++ t) i = byteAt t (i - a.length) := by
  simp [byteAt, List.getD_eq_getElem?_getD, List.getElem?_append_right h]

theorem byteAt_drop (b : List UInt8) (n i : Nat) : byteAt (b.drop n) i = byteAt b (n + i) := by
  simp [byteAt, List.getD_eq_getElem?_getD, List.getElem?_drop]

theorem byteAt_take (b : List UInt8) (n i : Nat) (h : i < n) : byteAt (b.take n) i = byteAt b i := by
  simp [byteAt, List.getD_eq_getElem?_getD, h]

/-- A field depends only on the bytes of its window. -/
theorem leAt_congr {b b' : List UInt8} : ∀ (k : Nat) {off off' : Nat},
    (∀ i, i < k → byteAt b (off + i) = byteAt b' (off' + i)) → leAt b off k = leAt b' off' k
  | 0, _, _, _ => rfl
  | k + 1, off, off', h => by
    rw [leAt, leAt, show byteAt b off = byteAt b' off' from h 0 (Nat.succ_pos k),
      leAt_congr k fun i hi => ?_]
    rw [Nat.add_assoc, Nat.add_assoc, Nat.add_comm 1 i]
    exact h (i + 1) (Nat.succ_lt_succ hi)

theorem beAt_congr {b b' : List UInt8} : ∀ (k : Nat) {off off' : Nat},
    (∀ i, i < k → byteAt b (off + i) = byteAt b' (off' + i)) → beAt b off k = beAt b' off' k
  | 0, _, _, _ => rfl
  | k + 1, off, off', h => by
    rw [beAt, beAt, show byteAt b off = byteAt b' off' from h 0 (Nat.succ_pos k),
      beAt_congr k fun i hi => ?_]
    rw [Nat.add_assoc, Nat.add_assoc, Nat.add_comm 1 i]
    exact h (i + 1) (Nat.succ_lt_succ hi)

theorem leAt_cons_succ (x : UInt8) (l : List UInt8) (off k : Nat) :
    leAt (x :: l) (off + 1) k = leAt l off k :=
  leAt_congr k fun i _ => by rw [Nat.add_right_comm, byteAt_cons_succ]

section
variable (a t b : List UInt8) (n off k : Nat)

theorem leAt_append_left (h : off + k ≤ a.length) : leAt (a ++ t) off k = leAt a off k :=
  leAt_congr k fun i _ => byteAt_append_left a t (off + i) (by omega)

theorem leAt_append_right (h : a.length ≤ off) :
    leAt (a ++ t) off k = leAt t (off - a.length) k :=
  leAt_congr k fun i _ => by rw [byteAt_append_right a t (off + i) (by omega), Nat.sub_add_comm h]

theorem leAt_drop : leAt (b.drop n) off k = leAt b (n + off) k :=
  leAt_congr k fun i _ => by rw [byteAt_drop, Nat.add_assoc]

theorem leAt_take (h : off + k ≤ n) : leAt (b.take n) off k = leAt b off k :=
  leAt_congr k fun i _ => byteAt_take b n (off + i) (by omega)

theorem beAt_append_left (h : off + k ≤ a.length) : beAt (a ++ t) off k = beAt a off k :=
  beAt_congr k fun i _ => byteAt_append_left a t (off + i) (by omega)

theorem beAt_append_right (h : a.length ≤ off) :
    beAt (a ++ t) off k = beAt t (off - a.length) k :=
  beAt_congr k fun i _ => by rw [byteAt_append_right a t (off + i) (by omega), Nat.sub_add_comm h]

theorem beAt_drop : beAt (b.drop n) off k = beAt b (n + off) k :=
  beAt_congr k fun i _ => by rw [byteAt_drop, Nat.add_assoc]

end

/-! ### Windows of zero bytes -/

theorem byteAt_eq_getElem (b : List UInt8) (i : Nat) (h : i < b.length) :
    byteAt b i = b[i].toNat := by
  unfold byteAt
  rw [List.getD_eq_getElem?_getD, List.getElem?_eq_getElem h]; rfl

theorem byteAt_eq_zero_iff (b : List UInt8) (i : Nat) (h : i < b.length) :
    byteAt b i = 0 ↔ b[i] = 0 := by
  rw [byteAt_eq_getElem b i h]
  constructor
  · intro h0; exact UInt8.toNat_inj.mp (by simpa using h0)
  · intro h0; rw [h0]; rfl

/-- `slice[lo..hi].iter().any(|&x| x != 0)` is false iff every byte of the range is zero. No bound
on `hi`: past the end `take` stops and `byteAt` reads 0. -/
theorem any_ne_zero_slice_iff (b : List UInt8) (lo hi : Nat) :
    ((b.drop lo).take (hi - lo)).any (fun x => x != 0) = false
      ↔ ∀ i, lo ≤ i → i < hi → byteAt b i = 0 := by
  rw [List.any_eq_false, List.forall_mem_iff_forall_getElem]
  simp only [bne_iff_ne, ne_eq, Decidable.not_not, List.length_take, List.length_drop,
    List.getElem_take, List.getElem_drop, ← byteAt_eq_zero_iff]
  constructor
  · intro H i h1 h2
    by_cases hl : i < b.length
    · have := H (i - lo) (by omega)
      rwa [show lo + (i - lo) = i by omega] at this
    · rw [byteAt, List.getD_eq_getElem?_getD, List.getElem?_eq_none (Nat.le_of_not_lt hl)]
      rfl
  · intro H j hj
    exact H _ (by omega) (by omega)

theorem eq_replicate_zero_iff (b : List UInt8) (lo n : Nat) (h : lo + n ≤ b.length) :
    (b.drop lo).take n = List.replicate n 0 ↔ ∀ i, lo ≤ i → i < lo + n → byteAt b i = 0 := by
  rw [← any_ne_zero_slice_iff, Nat.add_sub_cancel_left, List.eq_replicate_iff, List.any_eq_false,
    List.length_take, List.length_drop]
  simp only [bne_iff_ne, ne_eq, Decidable.not_not]
  exact and_iff_right (by omega)

/-! ### `from_bytes ∘ to_bytes` -/

/-- `from_le_bytes ∘ to_le_bytes` truncates to `k` bytes. -/
theorem leAt_leBytes (n k : Nat) : leAt (leBytes n k) 0 k = n % 256 ^ k := by
  induction k generalizing n with
  | zero => simp [leAt, Nat.mod_one]
  | succ k ih =>
    have h0 : byteAt (UInt8.ofNat (n % 256) :: leBytes (n / 256) k) 0 = n % 256 := by simp [byteAt]
    rw [leBytes, leAt, h0, leAt_cons_succ, ih, Nat.pow_succ, Nat.mul_comm (256 ^ k) 256,
      Nat.mod_mul]

/-- `from_be_bytes ∘ to_be_bytes` truncates to `k` bytes. -/
theorem beAt_beBytes (n k : Nat) : beAt (beBytes n k) 0 k = n % 256 ^ k := by
  induction k generalizing n with
  | zero => simp [beAt, Nat.mod_one]
  | succ k ih =>
    have hl : (beBytes (n / 256) k).length = k := beBytes_length _ _
    rw [beBytes_succ, beAt_add, beAt_append_left _ _ 0 k (by omega), ih, Nat.zero_add,
      beAt_append_right _ _ k 1 (by omega), hl, Nat.sub_self]
    have : beAt [UInt8.ofNat (n % 256)] 0 1 = n % 256 := by simp [beAt, byteAt]
    rw [this, Nat.pow_one, Nat.pow_succ, Nat.mul_comm (256 ^ k) 256, Nat.mod_mul, Nat.add_comm,
      Nat.mul_comm]

namespace Trg

/-! `leAt_append_right`, `leAt_append_left` for a `leBytes` head (`leAt_here` reads the words of the
C06 converse). -/

theorem leAt_skip (m j : Nat) (t : List UInt8) (off k : Nat) :
    leAt (leBytes m j ++ t) (off + j) k = leAt t off k := by
  rw [leAt_append_right _ _ _ _ (by rw [leBytes_length]; omega), leBytes_length,
    Nat.add_sub_cancel]

theorem leAt_here (n k : Nat) (t : List UInt8) : leAt (leBytes n k ++ t) 0 k = n % 256 ^ k := by
  rw [leAt_append_left _ _ _ _ (by rw [leBytes_length]; omega), leAt_leBytes]

end Trg

/-! ### Two's complement at a general width

The width enters only through `2 ^ bits = 2 * 2 ^ (bits - 1)`; the rest is linear in
`2 ^ (bits - 1)`. -/

theorem two_pow_eq_double {bits : Nat} (hb : 0 < bits) : 2 ^ bits = 2 * 2 ^ (bits - 1) := by
  obtain ⟨k, rfl⟩ : ∃ k, bits = k + 1 := ⟨bits - 1, by omega⟩
  rw [Nat.add_sub_cancel, Nat.pow_succ, Nat.mul_comm]

theorem toSigned_bounds {bits n : Nat} (hb : 0 < bits) (h : n < 2 ^ bits) :
    -((2 ^ (bits - 1) : Nat) : Int) ≤ toSigned bits n ∧
      toSigned bits n < ((2 ^ (bits - 1) : Nat) : Int) := by
  unfold toSigned
  rw [two_pow_eq_double hb] at *
  split <;> omega

theorem toSigned16_bounds (n : Nat) (h : n < 65536) :
    -32768 ≤ toSigned 16 n ∧ toSigned 16 n ≤ 32767 := by
  have := toSigned_bounds (bits := 16) (by decide) h
  omega

theorem toSigned32_bounds (n : Nat) (h : n < 4294967296) :
    -2147483648 ≤ toSigned 32 n ∧ toSigned 32 n ≤ 2147483647 := by
  have := toSigned_bounds (bits := 32) (by decide) h
  omega

theorem ofSigned_lt {bits : Nat} (x : Int) : ofSigned bits x < 2 ^ bits := by
  unfold ofSigned
  have hpos : (0 : Int) < ((2 ^ bits : Nat) : Int) := Int.natCast_pos.2 (Nat.two_pow_pos bits)
  have := Int.emod_lt_of_pos x hpos
  have := Int.emod_nonneg x (Int.ne_of_gt hpos)
  omega

theorem ofSigned_toSigned {bits n : Nat} (h : n < 2 ^ bits) :
    ofSigned bits (toSigned bits n) = n := by
  unfold toSigned ofSigned
  have hn : ((n : Int)) < ((2 ^ bits : Nat) : Int) := Int.ofNat_lt.2 h
  split
  · rw [Int.emod_eq_of_lt (Int.natCast_nonneg n) hn, Int.toNat_natCast]
  · rw [Int.sub_emod_right, Int.emod_eq_of_lt (Int.natCast_nonneg n) hn, Int.toNat_natCast]

theorem toSigned_ofSigned {bits : Nat} {x : Int} (hb : 0 < bits)
    (h : -((2 ^ (bits - 1) : Nat) : Int) ≤ x ∧ x < ((2 ^ (bits - 1) : Nat) : Int)) :
    toSigned bits (ofSigned bits x) = x := by
  unfold toSigned ofSigned
  rw [two_pow_eq_double hb]
  generalize 2 ^ (bits - 1) = H at *
  by_cases hx : 0 ≤ x
  · rw [Int.emod_eq_of_lt hx (by omega)]
    split <;> omega
  · rw [← Int.add_emod_right, Int.emod_eq_of_lt (by omega) (by omega)]
    split <;> omega

/-! ### Sums of bounded samples -/

theorem sum_bounds (lo hi : Int) : ∀ (l : List Int), (∀ x ∈ l, lo ≤ x ∧ x ≤ hi) →
    lo * l.length ≤ l.sum ∧ l.sum ≤ hi * l.length
  | [], _ => by simp
  | x :: l, h => by
    have hx := h x List.mem_cons_self
    have ih := sum_bounds lo hi l (fun y hy => h y (List.mem_cons_of_mem _ hy))
    simp only [List.sum_cons, List.length_cons, Int.natCast_add, Int.mul_add]
    omega

/-! ### Sorted lists -/

theorem strict_of_sorted {α : Type} {k : α → Nat} {s : List α}
    (hs : s.Pairwise (fun a b => k a ≤ k b)) (hnd : (s.map k).Nodup) :
    s.Pairwise (fun a b => k a < k b) := by
  rw [List.Nodup, List.pairwise_map] at hnd
  exact (hs.and hnd).imp fun ⟨h, h'⟩ => by omega

theorem sorted_unique {α : Type} {k : α → Nat} {s₁ s₂ : List α} (hp : s₁.Perm s₂)
    (h₁ : s₁.Pairwise (fun a b => k a < k b)) (h₂ : s₂.Pairwise (fun a b => k a < k b)) :
    s₁ = s₂ :=
  List.Perm.eq_of_pairwise (le := fun a b => k a < k b) (fun a b _ _ hab hba => by omega) h₁ h₂ hp

/-! ### Table scans -/

theorem find?_key_eq_none {α β : Type} [BEq β] [LawfulBEq β] {l : List α} {f : α → β} {x : β} :
    l.find? (fun t => f t == x) = none ↔ x ∉ l.map f := by
  simp only [List.find?_eq_none, beq_iff_eq, List.mem_map, not_exists, not_and]

theorem find?_key_eq_some {α β : Type} [BEq β] [LawfulBEq β] {l : List α} {f : α → β} {x : β}
    {t : α} (h : l.find? (fun t => f t == x) = some t) : f t = x ∧ t ∈ l :=
  ⟨by simpa using List.find?_some h, List.mem_of_find?_eq_some h⟩

end AlphaG
