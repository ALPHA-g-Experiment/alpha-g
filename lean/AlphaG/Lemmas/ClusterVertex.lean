import AlphaG.Model.Vertexing
import AlphaG.Lemmas.ClusterLoop
import AlphaG.Lemmas.OkOr
/-
Lemmas for the `find_vertices` bookkeeping: for each function a `_cases` statement (`groupAll_spec`
for the inner loop) that lists every way it can end (`.ok` with what holds of the value, or `.panic`
at a named site with its cause);
membership, totality, panic inventory and "never `.err`" are read off it. Core Lean only.
-/
namespace AlphaG.Vertexing
open AlphaG.Cluster (position swapRemove cnt cnt_perm cnt_flatten_le cnt_le_of_sublist)
open AlphaG.Outcome (OkOr)

/-- Hypotheses: `Track ==` is an equivalence (NaN-free parameters) and the sort returns a
permutation of its argument whenever it returns. -/
structure Ctx.Good (ctx : Ctx) : Prop where
  eq_refl : ∀ a, ctx.eq a a = true
  eq_symm : ∀ a b, ctx.eq a b = true → ctx.eq b a = true
  eq_trans : ∀ a b c, ctx.eq a b = true → ctx.eq b c = true → ctx.eq a c = true
  sort_perm : ∀ l l', ctx.sort l = some l' → l'.Perm l

/-- The clustering context that shares `eq` (to reuse the `position`/`swap_remove` lemmas). -/
def Ctx.toCluster (ctx : Ctx) : AlphaG.Cluster.Ctx := ⟨ctx.eq, fun _ => [], fun _ _ => false⟩

theorem Ctx.Good.toCluster {ctx : Ctx} (g : ctx.Good) : ctx.toCluster.Good :=
  ⟨g.eq_refl, g.eq_symm, g.eq_trans, fun _ => List.nodup_nil, fun _ _ _ _ => Iff.rfl⟩

/-- The two remainder loops differ only in the name of their panic site. -/
theorem removeTracks_ok (ctx : Ctx) {l ts rem : List Nat}
    (h : AlphaG.Cluster.removeFromSp ctx.toCluster l ts = .ok rem) :
    removeTracks ctx l ts = .ok rem := by
  induction l generalizing ts with
  | nil => exact h
  | cons p l ih =>
    rw [removeTracks]
    rw [AlphaG.Cluster.removeFromSp] at h
    split at h
    · cases h
    · next i hp =>
      -- `hp` speaks of `ctx.toCluster.eq`, which is `ctx.eq` by definition
      rw [show position (fun q => ctx.eq q p) ts = some i from hp]
      exact ih h

theorem removeTracks_spec {ctx : Ctx} (g : ctx.Good) (l ts : List Nat)
    (h : ∀ x, cnt ctx.toCluster x l ≤ cnt ctx.toCluster x ts) :
    ∃ rem, removeTracks ctx l ts = .ok rem ∧
      ∀ x, cnt ctx.toCluster x rem + cnt ctx.toCluster x l = cnt ctx.toCluster x ts := by
  obtain ⟨rem, hr, hc⟩ := AlphaG.Cluster.removeFromSp_spec g.toCluster l ts h
  exact ⟨rem, removeTracks_ok ctx hr, hc⟩

theorem removeTracks_cases (ctx : Ctx) (l ts : List Nat) :
    OkOr (· = "find_vertices:position") (removeTracks ctx l ts) fun _ => True := by
  induction l generalizing ts with
  | nil => trivial
  | cons p ps ih =>
    unfold removeTracks
    split
    · rfl
    · exact ih _

theorem groupAll_spec (ctx : Ctx) (ts : List Nat) (cls : List (List Nat)) (c : List Nat) (t : Nat) :
    OkOr (fun _ => False) (groupAll ctx ts (cls ++ [c ++ [t]])) fun cls' =>
      cls'.flatten.Perm ((cls ++ [c ++ [t]]).flatten ++ ts) := by
  induction ts generalizing cls c t with
  | nil => exact .ok (by simp)
  | cons u ts ih =>
    rw [groupAll, groupStep]
    simp only [List.getLast?_append, List.getLast?_singleton, Option.some_or, List.dropLast_concat]
    by_cases hc : ctx.close u t = true
    · rw [if_pos hc]
      exact (ih cls (c ++ [t]) u).mono (fun _ h => h.trans (by simp)) fun _ => id
    · rw [if_neg hc]
      exact (ih (cls ++ [c ++ [t]]) [] u).mono (fun _ h => h.trans (by simp)) fun _ => id

/-- `beamline_clusters` returns a grouping of its input, or the sort met a NaN (its
`partial_cmp().unwrap()`): `tracks[0]`, `clusters.last().unwrap()` and `.last().unwrap()` are unreachable. -/
theorem beamlineClusters_cases {ctx : Ctx} (hs : ∀ l l', ctx.sort l = some l' → l'.Perm l)
    (tracks : List Nat) :
    OkOr (fun s => s = "beamline_clusters:partial_cmp" ∧ ctx.sort tracks = none)
      (beamlineClusters ctx tracks) fun cls => cls.flatten.Perm tracks := by
  unfold beamlineClusters
  cases tracks with
  | nil => exact .ok (.refl _)
  | cons t ts =>
    rw [List.isEmpty_cons, if_neg Bool.false_ne_true]
    cases hso : ctx.sort (t :: ts) with
    | none => exact .panic ⟨rfl, rfl⟩
    | some l =>
      have hp := hs _ _ hso
      cases l with
      | nil => exact absurd hp.symm.eq_nil (List.cons_ne_nil _ _)
      | cons t0 l =>
        exact (groupAll_spec ctx l [] [] t0).mono (fun _ h => (h.trans (by simp)).trans hp) nofun

theorem maxSetByKey_subset {α : Type} (key : α → Nat) (l : List α) :
    ∀ a ∈ maxSetByKey key l, a ∈ l := by
  refine List.foldlRecOn (motive := (· ⊆ l)) l _ (List.nil_subset _) fun acc h x hx => ?_
  have hx : [x] ⊆ l := List.cons_subset.2 ⟨hx, List.nil_subset _⟩
  cases acc with
  | nil => exact hx
  | cons a acc =>
    dsimp only
    split
    · exact hx
    · split
      · exact List.append_subset.2 ⟨h, hx⟩
      · exact h

theorem maxByFold_cases {α : Type} (cmp : α → α → Option Ordering) (l : List α) (best : α) :
    OkOr (fun s => s = "find_vertices:partial_cmp" ∧ ∃ a b, cmp a b = none) (maxByFold cmp best l)
      (· ∈ best :: l) := by
  induction l generalizing best with
  | nil => exact .ok (List.mem_singleton_self _)
  | cons x l ih =>
    rw [maxByFold]
    -- either way the fold goes on with a member of `best :: x :: l`
    have next := fun y (hy : y ∈ best :: x :: l) => (ih y).mono (P' := (· ∈ best :: x :: l))
      (fun b hb => List.cons_subset.2
        ⟨hy, fun _ h => List.mem_cons_of_mem _ (List.mem_cons_of_mem _ h)⟩ hb) fun _ => id
    cases hc : cmp best x with
    | none => exact .panic ⟨rfl, best, x, hc⟩
    | some o =>
      cases o with
      | gt => exact next best List.mem_cons_self
      | lt => exact next x (List.mem_cons_of_mem _ List.mem_cons_self)
      | eq => exact next x (List.mem_cons_of_mem _ List.mem_cons_self)

theorem maxBy_cases {α : Type} (cmp : α → α → Option Ordering) (l : List α) :
    OkOr (fun s => s = "find_vertices:partial_cmp" ∧ ∃ a b, cmp a b = none) (maxBy cmp l)
      fun v => ∀ w, v = some w → w ∈ l := by
  cases l with
  | nil => exact .ok nofun
  | cons a l =>
    rw [maxBy]
    rcases (maxByFold_cases cmp l a).cases with ⟨b, h, hb⟩ | ⟨s, h, hs⟩
    · rw [h]; exact .ok fun w hw => Option.some.inj hw ▸ hb
    · rw [h]; exact .panic hs

/-- What the first two stages of `find_vertices` select: at least two tracks, all of them kept
input tracks, and a sub-multiset of the input. -/
theorem selection_spec {ctx : Ctx} {tracks : List Nat} {cls : List (List Nat)}
    (hp : cls.flatten.Perm (tracks.filter ctx.keep)) {w : List Nat}
    (hw : w ∈ maxSetByKey List.length (cls.filter (fun c => decide (1 < c.length)))) :
    2 ≤ w.length ∧ (∀ i ∈ w, i ∈ tracks ∧ ctx.keep i = true) ∧
    ∀ x, cnt ctx.toCluster x w ≤ cnt ctx.toCluster x tracks := by
  have hw := List.mem_filter.1 (maxSetByKey_subset _ _ _ hw)
  refine ⟨of_decide_eq_true hw.2,
    fun i hi => List.mem_filter.1 (hp.mem_iff.1 (List.mem_flatten.2 ⟨w, hw.1, hi⟩)), fun x => ?_⟩
  refine Nat.le_trans (cnt_flatten_le _ x hw.1) ?_
  rw [cnt_perm _ x hp]
  exact cnt_le_of_sublist _ x List.filter_sublist

end AlphaG.Vertexing
