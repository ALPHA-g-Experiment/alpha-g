import AlphaG.Lemmas.ClusterList
/-
`largest_cluster`: the flood fill only ever moves a point from `points` to the end of `cluster`,
and only when it is `near` a member. A predicate on the state `(points, cluster)` that is closed
under this step survives the two inner loops (`scan_ind`, `grow_ind`; the outer one,
`components`, has `components_spec`); conservation, connectedness and the length bounds are
instances. The last section shows that the fuel the model gives these loops suffices (at fuel 0
they return their state silently). Core Lean only.
-/
namespace AlphaG.Cluster

/-- `b` is reachable from `a` by `near` steps that stay inside `c`. -/
inductive Reach (near : Nat → Nat → Bool) (c : List Nat) : Nat → Nat → Prop
  | refl (a : Nat) : Reach near c a a
  | step {a b d : Nat} : a ∈ c → b ∈ c → near a b = true → Reach near c b d → Reach near c a d

/-- Any two points of `c` are linked by a chain of `near` steps inside `c`. -/
def Conn (near : Nat → Nat → Bool) (c : List Nat) : Prop :=
  ∀ a ∈ c, ∀ b ∈ c, Reach near c a b

theorem Reach.trans {near : Nat → Nat → Bool} {c : List Nat} {a b d : Nat}
    (h1 : Reach near c a b) (h2 : Reach near c b d) : Reach near c a d := by
  induction h1 with
  | refl a => exact h2
  | step ha hb hn _ ih => exact Reach.step ha hb hn (ih h2)

theorem Reach.mono {near : Nat → Nat → Bool} {c c' : List Nat} (hs : c ⊆ c') {a b : Nat}
    (h : Reach near c a b) : Reach near c' a b := by
  induction h with
  | refl a => exact Reach.refl a
  | step ha hb hn _ ih => exact Reach.step (hs ha) (hs hb) hn ih

theorem Conn.nil (near : Nat → Nat → Bool) : Conn near [] := fun _ ha => nomatch ha

theorem Conn.single (near : Nat → Nat → Bool) (p : Nat) : Conn near [p] := by
  intro a ha b hb
  rw [List.mem_singleton] at ha hb
  subst ha hb
  exact Reach.refl _

theorem Conn.push {near : Nat → Nat → Bool} (hsym : ∀ a b, near a b = true → near b a = true)
    {c : List Nat} (hc : Conn near c) {ci q : Nat} (hci : ci ∈ c) (hn : near ci q = true) :
    Conn near (c ++ [q]) := by
  have hsub : c ⊆ c ++ [q] := List.subset_append_left _ _
  have hq : q ∈ c ++ [q] := by simp
  -- every member reaches, and is reached from, `ci`
  have link : ∀ a ∈ c ++ [q], Reach near (c ++ [q]) a ci ∧ Reach near (c ++ [q]) ci a := by
    intro a ha
    rcases List.mem_append.1 ha with ha | ha
    · exact ⟨(hc a ha ci hci).mono hsub, (hc ci hci a ha).mono hsub⟩
    · rw [List.mem_singleton.1 ha]
      exact ⟨.step hq (hsub hci) (hsym _ _ hn) (.refl _), .step (hsub hci) hq hn (.refl _)⟩
  exact fun a ha b hb => (link a ha).1.trans (link b hb).2

/-- The `j` loop preserves every predicate that is closed under "move `points[j]` to the end of
`cluster` when `c points[j]`". -/
theorem scan_ind {c : Nat → Bool} {I : List Nat × List Nat → Prop}
    (hmove : ∀ s j (h : j < s.1.length), c s.1[j] = true → I s →
      I (swapRemove s.1 j, s.2 ++ [s.1[j]])) (fuel j : Nat) (s : List Nat × List Nat) (h : I s) :
    I (scan c fuel j s) := by
  fun_induction scan c fuel j s with
  | case1 => exact h
  | case2 fuel j s hj hc ih => exact ih (hmove s j hj hc h)
  | case3 fuel j s hj hc ih => exact ih h
  | case4 => exact h

/-- The `i` loop: the moved point is `near` a member of the cluster. -/
theorem grow_ind {near : Nat → Nat → Bool} {I : List Nat × List Nat → Prop}
    (hmove : ∀ s j (h : j < s.1.length) ci, ci ∈ s.2 → near ci s.1[j] = true → I s →
      I (swapRemove s.1 j, s.2 ++ [s.1[j]])) (fuel i : Nat) (s : List Nat × List Nat) (h : I s) :
    I (grow near fuel i s) := by
  fun_induction grow near fuel i s with
  | case1 => exact h
  | case2 fuel i s hi ih =>
    refine ih (scan_ind (I := fun t => I t ∧ s.2[i] ∈ t.2) ?_ _ _ s ⟨h, List.getElem_mem hi⟩).1
    exact fun t j hj hc ht => ⟨hmove t j hj _ ht.2 hc ht.1, List.mem_append_left _ ht.2⟩
  | case3 => exact h

theorem move_perm {s : List Nat × List Nat} {j : Nat} (h : j < s.1.length) :
    (swapRemove s.1 j ++ (s.2 ++ [s.1[j]])).Perm (s.1 ++ s.2) := by
  rw [← List.append_assoc]
  refine (List.perm_append_singleton _ _).trans ?_
  rw [← List.cons_append]
  exact (swapRemove_perm h).append_right _

theorem scan_perm (c : Nat → Bool) (fuel j : Nat) (s : List Nat × List Nat) :
    ((scan c fuel j s).1 ++ (scan c fuel j s).2).Perm (s.1 ++ s.2) :=
  scan_ind (I := fun t => (t.1 ++ t.2).Perm (s.1 ++ s.2))
    (fun _ _ hj _ ht => (move_perm hj).trans ht) _ _ s (.refl _)

theorem grow_perm (near : Nat → Nat → Bool) (fuel i : Nat) (s : List Nat × List Nat) :
    ((grow near fuel i s).1 ++ (grow near fuel i s).2).Perm (s.1 ++ s.2) :=
  grow_ind (I := fun t => (t.1 ++ t.2).Perm (s.1 ++ s.2))
    (fun _ _ hj _ _ _ ht => (move_perm hj).trans ht) _ _ s (.refl _)

theorem grow_conn {near : Nat → Nat → Bool} (hsym : ∀ a b, near a b = true → near b a = true)
    (fuel i : Nat) (s : List Nat × List Nat) (h : Conn near s.2) : Conn near (grow near fuel i s).2 :=
  grow_ind (I := fun t => Conn near t.2) (fun _ _ _ _ hci hn ht => ht.push hsym hci hn) _ _ s h

theorem grow_len2 (near : Nat → Nat → Bool) (fuel i : Nat) (s : List Nat × List Nat) :
    s.2.length ≤ (grow near fuel i s).2.length :=
  grow_ind (I := fun t => s.2.length ≤ t.2.length)
    (fun _ _ _ _ _ _ ht => by simp only [List.length_append]; omega) _ _ s (Nat.le_refl _)

/-- Every cluster the `pop` loop adds is a `grow` from a single point, and all of them together
with what is left are the input. -/
theorem components_spec (near : Nat → Nat → Bool) (P : List Nat → Prop)
    (hP : ∀ n l p, P (grow near n 0 (l, [p])).2) (fuel : Nat) (pts : List Nat)
    (out : List (List Nat)) (hout : ∀ c ∈ out, P c) :
    (∀ c ∈ components near fuel pts out, P c) ∧
    ∃ rest, ((components near fuel pts out).flatten ++ rest).Perm (out.flatten ++ pts) := by
  fun_induction components near fuel pts out with
  | case1 pts out => exact ⟨hout, pts, .refl _⟩
  | case2 fuel pts out => exact ⟨hout, pts, .refl _⟩
  | case3 fuel pts out p hl s ih =>
    obtain ⟨h1, rest, hr⟩ :=
      ih (List.forall_mem_append.2 ⟨hout, List.forall_mem_singleton.2 (hP _ _ _)⟩)
    refine ⟨h1, rest, hr.trans ?_⟩
    rw [List.flatten_append, List.flatten_singleton, List.append_assoc]
    refine List.Perm.append_left _ (List.perm_append_comm.trans ?_)
    obtain ⟨l, rfl⟩ := List.getLast?_eq_some_iff.1 hl
    exact (grow_perm near _ 0 _).trans (.of_eq (by simp))

/-- `largest_cluster` returns `[]` or a `grow` from a single point, and a sub-multiset of its
argument. -/
theorem largestCluster_spec (near : Nat → Nat → Bool) (P : List Nat → Prop) (h0 : P [])
    (hP : ∀ n l p, P (grow near n 0 (l, [p])).2) (pts : List Nat) :
    P (largestCluster near pts) ∧ ∃ rest, (largestCluster near pts ++ rest).Perm pts := by
  unfold largestCluster
  obtain ⟨h1, rest, hr⟩ := components_spec near P hP pts.length pts [] (fun _ h => nomatch h)
  cases h : lastMaxBy List.length (components near pts.length pts []) with
  | none => exact ⟨h0, pts, .refl _⟩
  | some c =>
    have hc := lastMaxBy_mem h
    obtain ⟨r, hcr⟩ := (List.sublist_flatten_of_mem hc).exists_perm_append
    exact ⟨h1 c hc, r ++ rest, (List.append_assoc .. ▸ hcr.symm.append_right rest).trans hr⟩

theorem largestCluster_subperm (near : Nat → Nat → Bool) (pts : List Nat) :
    ∃ rest, (largestCluster near pts ++ rest).Perm pts :=
  (largestCluster_spec near (fun _ => True) trivial (fun _ _ _ => trivial) pts).2

theorem largestCluster_le (ctx : Ctx) (near : Nat → Nat → Bool) (pts : List Nat) (x : Nat) :
    cnt ctx x (largestCluster near pts) ≤ cnt ctx x pts := by
  obtain ⟨rest, hr⟩ := largestCluster_subperm near pts
  rw [← cnt_perm ctx x hr, cnt_append]
  exact Nat.le_add_right _ _

theorem largestCluster_conn {near : Nat → Nat → Bool}
    (hsym : ∀ a b, near a b = true → near b a = true) (pts : List Nat) :
    Conn near (largestCluster near pts) :=
  (largestCluster_spec near (Conn near) (Conn.nil near)
    (fun _ _ p => grow_conn hsym _ _ _ (Conn.single near p)) pts).1

/-! ### Fuel sufficiency of the three flood-fill loops

The loops of `largest_cluster` are modelled by structural recursion on fuel that is *derived
from the data* (`points.len() - j`, `points.len() + cluster.len() - i`, `points.len()`).
The fuel is sufficient: any additional fuel gives the same result, i.e. each loop has left
through its own exit condition (`j >= points.len()`, `i >= cluster.len()`, `pop() == None`)
before the fuel ran out. -/

theorem scan_fuel (c : Nat → Bool) (k : Nat) :
    ∀ (fuel j : Nat) (s : List Nat × List Nat), s.1.length - j ≤ fuel →
      scan c (fuel + k) j s = scan c fuel j s := by
  intro fuel j s h
  fun_induction scan c fuel j s with
  | case1 j s => cases k <;> simp [scan, show ¬ j < s.1.length by omega]
  | case2 fuel j s hj hc ih =>
    rw [Nat.succ_add, scan, dif_pos hj, if_pos hc]
    exact ih (by have := swapRemove_length hj; simp only; omega)
  | case3 fuel j s hj hc ih =>
    rw [Nat.succ_add, scan, dif_pos hj, if_neg hc]
    exact ih (by omega)
  | case4 fuel j s hj => rw [Nat.succ_add, scan, dif_neg hj]

theorem grow_fuel (near : Nat → Nat → Bool) (k : Nat) :
    ∀ (fuel i : Nat) (s : List Nat × List Nat), s.1.length + s.2.length - i ≤ fuel →
      grow near (fuel + k) i s = grow near fuel i s := by
  intro fuel i s h
  fun_induction grow near fuel i s with
  | case1 i s => cases k <;> simp [grow, show ¬ i < s.2.length by omega]
  | case2 fuel i s hi ih =>
    rw [Nat.succ_add, grow, dif_pos hi]
    have := (scan_perm (near s.2[i]) s.1.length 0 s).length_eq
    simp only [List.length_append] at this
    exact ih (by omega)
  | case3 fuel i s hi => rw [Nat.succ_add, grow, dif_neg hi]

theorem components_fuel (near : Nat → Nat → Bool) (k : Nat) (fuel : Nat) (pts : List Nat)
    (out : List (List Nat)) (h : pts.length ≤ fuel) :
    components near (fuel + k) pts out = components near fuel pts out := by
  fun_induction components near fuel pts out with
  | case1 pts out =>
    cases k <;> simp [components, List.eq_nil_of_length_eq_zero (Nat.le_zero.1 h)]
  | case2 fuel pts out hl => rw [Nat.succ_add, components, hl]
  | case3 fuel pts out p hl s ih =>
    rw [Nat.succ_add, components, hl]
    refine ih ?_
    have h1 : (s.1 ++ s.2).length = _ := (grow_perm near pts.length 0 (pts.dropLast, [p])).length_eq
    have h2 : _ ≤ s.2.length := grow_len2 near pts.length 0 (pts.dropLast, [p])
    simp only [List.length_append, List.length_dropLast, List.length_cons, List.length_nil] at h1 h2
    omega

/-- `largest_cluster` does not depend on fuel beyond `points.len()`. -/
theorem largestCluster_fuel (near : Nat → Nat → Bool) (pts : List Nat) (k : Nat) :
    (lastMaxBy List.length (components near (pts.length + k) pts [])).getD []
      = largestCluster near pts := by
  rw [largestCluster, components_fuel near k pts.length pts [] (Nat.le_refl _)]

end AlphaG.Cluster
