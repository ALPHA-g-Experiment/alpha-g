import AlphaG.Lemmas.RangesAvalanches
/-
Shape of the output of `MainEvent::avalanches` (model `Matching.avalanches`): where an avalanche
can sit and what its amplitudes are, pad column by pad column (`mem_matchColumn`; the columns are
put together in `C13b.avalanches_shape`). Any carrier; the only law used is the transitivity instance
`0 < a → a < b → 0 < b` (for the pad amplitude `middle > first > 0`). At the start,
`pad_hits_at_t` as a filter over the row index (`padHitsAtT_eq'`), on which the mirror symmetry
(`Lemmas/RangesMirror.lean`) rests as well.
-/
namespace AlphaG.Matching
open AlphaG.Deconv AlphaG.Ranges

variable {α : Type} (o : Ops α) (g : Geo α) (s : Sorter α)

/-- The hit (if any) of the triple `(first, middle, last)` whose `last` sits at `row`. -/
def hitAt (row : Nat) (first middle last : α) : Option (PadHit α) :=
  if isPeak o first middle last then some ⟨hitZ o g row first middle last, middle⟩ else none

theorem filterMap_cons_toList {β γ : Type} (f : β → Option γ) (a : β) (l : List β) :
    (a :: l).filterMap f = (f a).toList ++ l.filterMap f := by
  rw [List.filterMap_cons]
  cases f a <;> rfl

theorem hitAt_toList (row : Nat) (first middle last : α) :
    (hitAt o g row first middle last).toList =
      if isPeak o first middle last then [⟨hitZ o g row first middle last, middle⟩] else [] := by
  unfold hitAt
  split <;> rfl

theorem padHitsGo_eq (t : Nat) (rest : List (List α)) (row : Nat) (first middle : α) :
    padHitsGo o g t rest row first middle
      = (List.range rest.length).filterMap fun i =>
          hitAt o g (row + i)
            ((first :: middle :: rest.map (sampleAt o · t)).getD i o.zero)
            ((first :: middle :: rest.map (sampleAt o · t)).getD (i + 1) o.zero)
            ((first :: middle :: rest.map (sampleAt o · t)).getD (i + 2) o.zero) := by
  induction rest generalizing row first middle with
  | nil => rfl
  | cons inp rest ih =>
    rw [padHitsGo, ih, List.length_cons, List.range_succ_eq_map, filterMap_cons_toList,
      List.filterMap_map, hitAt_toList]
    simp only [Nat.add_right_comm row 1]
    rfl

/-- `(column.map sample).getD i 0` is the sample of row `i` (an absent row reads `0.0`, like an
empty input). -/
theorem getD_map_sampleAt (column : List (List α)) (t i : Nat) :
    (column.map (sampleAt o · t)).getD i o.zero = sampleAt o (column.getD i []) t := by
  simp only [List.getD_eq_getElem?_getD, List.getElem?_map]
  cases column[i]? <;> simp [sampleAt]

/-- `pad_hits_at_t` as a filter over the row index `i` of `first`: the triple of samples of rows
`i, i+1, i+2` is tested and the hit is placed relative to row `i + 1` (`hitZ` takes the row of
`last`). -/
theorem padHitsAtT_eq' (column : List (List α)) (t : Nat) :
    padHitsAtT o g column t
      = (List.range (column.length - 2)).filterMap fun i =>
          hitAt o g (i + 2) (sampleAt o (column.getD i []) t)
            (sampleAt o (column.getD (i + 1) []) t) (sampleAt o (column.getD (i + 2) []) t) := by
  simp only [← getD_map_sampleAt]
  match column with
  | [] => simp [padHitsAtT]
  | [_] => simp [padHitsAtT]
  | r0 :: r1 :: rest =>
    have e : rest.length + 1 + 1 - 2 = rest.length := by omega
    simp only [padHitsAtT, padHitsGo_eq, List.length_cons, List.map_cons, e, Nat.add_comm 2]

theorem mem_zipWith_elim {β γ δ : Type} (f : β → γ → δ) (l₁ : List β) (l₂ : List γ) (d : δ)
    (h : d ∈ List.zipWith f l₁ l₂) : ∃ b ∈ l₁, ∃ c ∈ l₂, d = f b c := by
  rw [← List.map_uncurry_zip_eq_zipWith] at h
  obtain ⟨⟨b, c⟩, hp, rfl⟩ := List.mem_map.1 h
  exact ⟨b, (List.of_mem_zip hp).1, c, (List.of_mem_zip hp).2, rfl⟩

theorem mem_applyPerm {β : Type} (p : List Nat) (l : List β) (x : β) (h : x ∈ applyPerm p l) :
    x ∈ l := by
  unfold applyPerm at h
  obtain ⟨i, _, hi⟩ := List.mem_filterMap.1 h
  exact List.mem_of_getElem? hi

theorem mem_zip_map {β γ : Type} (f : β → γ) (l : List β) (p : β × γ)
    (h : p ∈ l.zip (l.map f)) : p.1 ∈ l ∧ p.2 = f p.1 := by
  have e := List.zip_map' (f := id) (g := f) (l := l)
  rw [List.map_id] at e
  rw [e] at h
  obtain ⟨a, ha, rfl⟩ := List.mem_map.1 h
  exact ⟨ha, rfl⟩

theorem mem_wireHitsAtT (indices : List Nat) (inputs : List (List α)) (t : Nat) (h : WireHit α)
    (hh : h ∈ wireHitsAtT o indices inputs t) :
    ∃ p ∈ indices.zip inputs, p.1 = h.wire ∧ p.2[t]? = some h.amplitude
      ∧ o.lt o.zero h.amplitude = true := by
  unfold wireHitsAtT at hh
  obtain ⟨p, hp, hv⟩ := List.mem_filterMap.1 hh
  refine ⟨p, hp, ?_⟩
  cases hpt : p.2[t]? with
  | none => simp [hpt] at hv
  | some v =>
    simp only [hpt] at hv
    by_cases hlt : o.lt o.zero v = true
    · simp only [hlt, if_true, Option.some.injEq] at hv
      subst hv
      exact ⟨rfl, rfl, hlt⟩
    · simp [hlt] at hv

/-- Every pad hit has a positive amplitude (`middle > first > 0`). -/
theorem padHitsAtT_pos (hlt : ∀ a b : α, o.lt o.zero a = true → o.lt a b = true → o.lt o.zero b = true)
    (column : List (List α)) (t : Nat) (h : PadHit α) (hh : h ∈ padHitsAtT o g column t) :
    o.lt o.zero h.amplitude = true := by
  rw [padHitsAtT_eq', List.mem_filterMap] at hh
  obtain ⟨i, _, hi⟩ := hh
  unfold hitAt at hi
  split at hi
  · rename_i hp
    cases hi
    simp only [isPeak, Bool.and_eq_true] at hp
    exact hlt _ _ hp.1.1.1 hp.1.2
  · cases hi

theorem mem_matchColumn (hlt : ∀ a b : α, o.lt o.zero a = true → o.lt a b = true → o.lt o.zero b = true)
    (indices : List Nat) (f : Nat → List α) (column : List (List α)) (a : Avalanche α)
    (ha : a ∈ matchColumn o g s indices (indices.map f) column) :
    a.wire ∈ indices ∧ (f a.wire)[a.t]? = some a.wireAmp
      ∧ o.lt o.zero a.wireAmp = true ∧ o.lt o.zero a.padAmp = true := by
  unfold matchColumn at ha
  obtain ⟨t, _, hat⟩ := List.mem_flatMap.1 ha
  unfold matchAtT at hat
  split at hat
  · simp at hat
  · obtain ⟨w, hw, p, hp, e⟩ := mem_zipWith_elim _ _ _ _ hat
    have hw' := mem_applyPerm _ _ _ hw
    have hp' := mem_applyPerm _ _ _ hp
    obtain ⟨q, hq, hq1, hq2, hq3⟩ := mem_wireHitsAtT o _ _ _ _ hw'
    obtain ⟨hmem, hval⟩ := mem_zip_map f indices q hq
    subst e
    refine ⟨hq1 ▸ hmem, ?_, hq3, padHitsAtT_pos o g hlt _ _ _ hp'⟩
    show (f w.wire)[t]? = some w.amplitude
    rw [← hq1, ← hval]
    exact hq2

end AlphaG.Matching
