import AlphaG.Model.Event
import AlphaG.Lemmas.Bytes
import AlphaG.Props.C01
import AlphaG.Props.C02Converse
import AlphaG.Props.C04
import AlphaG.Props.C05
import AlphaG.Props.C06
import AlphaG.Props.C08
/-
Lemmas for the event-assembly model (C09 / C10 / C11): the calibration lookups never panic (the
`model:` branches are dead), ranges of the decoded ids and samples, `i32` arithmetic, slot
indices.
-/
namespace AlphaG.Event
open AlphaG AlphaG.Generated AlphaG.Maps

def delayArmsOk (arms : Arms) : Bool :=
  arms.all (fun a => match a.2 with
    | .table _ => false
    | .value _ => true
    | .err _ => true)
  && arms.any (fun a => a.1 == .wild)

theorem wireLookup_noPanic {β : Type} (arms : Arms) (tables : List (List β × List Nat))
    (h : armsWellFormed arms tables.length = true) (run w : Nat) :
    NoPanic (wireLookup arms tables run w) := by
  unfold wireLookup
  rcases dispatch_cases arms _ h run with ⟨i, hi, e⟩ | ⟨v, e⟩
  · rw [e]
    simp only [List.getElem?_eq_getElem hi]
    refine noPanic_ite_err fun _ => ?_
    split
    · exact noPanic_ok _
    · exact noPanic_err _
  · rw [e]; exact noPanic_err _

theorem padLookup_noPanic {β : Type} (arms : Arms)
    (tables : List (List (List β) × List (Nat × Nat)))
    (h : armsWellFormed arms tables.length = true) (run c r : Nat) :
    NoPanic (padLookup arms tables run c r) := by
  unfold padLookup
  rcases dispatch_cases arms _ h run with ⟨i, hi, e⟩ | ⟨v, e⟩
  · rw [e]
    simp only [List.getElem?_eq_getElem hi]
    refine noPanic_ite_err fun _ => ?_
    split
    · exact noPanic_err _
    · split
      · exact noPanic_ok _
      · exact noPanic_err _
  · rw [e]; exact noPanic_err _

theorem delayLookup_noPanic (arms : Arms) (h : delayArmsOk arms = true) (run : Nat) :
    NoPanic (delayLookup arms run) := by
  simp only [delayArmsOk, Bool.and_eq_true, List.all_eq_true] at h
  obtain ⟨x, hx⟩ := dispatch_isSome arms h.2 run
  obtain ⟨b, hb, e⟩ := List.mem_map.1 (dispatch_mem arms run x hx)
  have := h.1 b hb
  rw [e] at this
  unfold delayLookup
  rw [hx]
  cases x with
  | table i => simp at this
  | value v => exact noPanic_ok _
  | err v => exact noPanic_err _

theorem cal_facts : armsWellFormed wireBaselineArms wireBaselineTables.length = true
    ∧ armsWellFormed wireGainArms wireGainTables.length = true
    ∧ armsWellFormed padBaselineArms padBaselineTables.length = true
    ∧ armsWellFormed padGainArms padGainTables.length = true
    ∧ delayArmsOk wireDelayArms = true ∧ delayArmsOk padDelayArms = true := by decide

theorem wireBaseline_noPanic (run w : Nat) : NoPanic (wireBaseline run w) :=
  BankName.mapOut_noPanic (wireLookup_noPanic _ _ cal_facts.1 run w)
theorem wireGainBits_noPanic (run w : Nat) : NoPanic (wireGainBits run w) :=
  wireLookup_noPanic _ _ cal_facts.2.1 run w
theorem wireDelay_noPanic (run : Nat) : NoPanic (wireDelay run) :=
  delayLookup_noPanic _ cal_facts.2.2.2.2.1 run
theorem padBaseline_noPanic (run c r : Nat) : NoPanic (padBaseline run c r) :=
  BankName.mapOut_noPanic (padLookup_noPanic _ _ cal_facts.2.2.1 run c r)
theorem padGainBits_noPanic (run c r : Nat) : NoPanic (padGainBits run c r) :=
  padLookup_noPanic _ _ cal_facts.2.2.2.1 run c r
theorem padDelay_noPanic (run : Nat) : NoPanic (padDelay run) :=
  delayLookup_noPanic _ cal_facts.2.2.2.2.2 run

theorem clampI16_range (v : Int) : -32768 ≤ clampI16 v ∧ clampI16 v ≤ 32767 := by
  unfold clampI16
  split
  · omega
  · split <;> omega

theorem baseline_range {x : Outcome String Int} {bl : Int}
    (h : BankName.mapOut id clampI16 x = .ok bl) : -32768 ≤ bl ∧ bl ≤ 32767 := by
  obtain ⟨a, _, rfl⟩ := BankName.mapOut_ok.1 h
  exact clampI16_range a

theorem wireBaseline_range (run w : Nat) (bl : Int) (h : wireBaseline run w = .ok bl) :
    -32768 ≤ bl ∧ bl ≤ 32767 := baseline_range h

theorem padBaseline_range (run c r : Nat) (bl : Int) (h : padBaseline run c r = .ok bl) :
    -32768 ≤ bl ∧ bl ≤ 32767 := baseline_range h

/-- `i32::from(v) - i32::from(baseline)` cannot overflow for `i16` operands. -/
theorem subFitsI32_of_range (bl : Int) (wf : List Int) (hb : -32768 ≤ bl ∧ bl ≤ 32767)
    (hw : ∀ v ∈ wf, -32768 ≤ v ∧ v ≤ 32767) : subFitsI32 bl wf = true := by
  simp only [subFitsI32, List.all_eq_true, decide_eq_true_eq]
  intro v hv
  have := hw v hv
  omega

theorem findIdx_getD_lt {β : Type} (l : List β) (f : β → Bool) (h : 0 < l.length) :
    (l.findIdx? f).getD 0 < l.length := by
  cases hx : l.findIdx? f with
  | none => simpa using h
  | some i =>
    simp only [Option.getD_some]
    exact (List.findIdx?_eq_some_iff_findIdx_eq.1 hx).1

theorem findIdx?_name {β : Type} {l : List (String × β)} (hn : (l.map (·.1)).Nodup) {i : Nat}
    (hi : i < l.length) : l.findIdx? (fun r => r.1 == l[i].1) = some i := by
  refine List.findIdx?_eq_some_iff_getElem.2 ⟨hi, by simp, fun j hji hj => ?_⟩
  have hj' : j < l.length := Nat.lt_trans hji hi
  have : (l.map (·.1))[j]'(by simpa using hj') = (l.map (·.1))[i]'(by simpa using hi) := by simpa using hj
  exact absurd ((List.getElem_inj hn).1 this) (Nat.ne_of_lt hji)

theorem a16Row_lt (b : Option (String × List Nat)) : a16Row b < 8 := by
  unfold a16Row
  cases b with
  | none => simp
  | some x =>
    simp only [Option.bind_some]
    exact findIdx_getD_lt alpha16Boards _ (by decide)

theorem a16Row_row (i : Nat) (hi : i < 8) : a16Row (alpha16Boards[i]?) = i := by
  have hl : i < alpha16Boards.length := hi
  rw [List.getElem?_eq_getElem hl, a16Row, Option.bind_some, a16BoardIdx,
    findIdx?_name C08.board_tables_distinct.1 hl]
  rfl

theorem pwbRow_lt (p : Pwb.PwbPacket) : pwbRow p < padwingBoards.length := by
  unfold pwbRow
  exact findIdx_getD_lt padwingBoards _ (by decide)

/-- What `try_from_banks` uses of an accepted ADC packet. -/
theorem adc_facts (b : List UInt8) (p : Adc.Packet) (h : Adc.decodeAdcPacket b = .ok p) :
    (∀ ch, p.channelId = .a32 ch → ch < 32) ∧ (∀ v ∈ p.waveform, -32768 ≤ v ∧ v ≤ 32767) := by
  have chan : ((∃ n, p.channelId = .a16 n ∧ n ≤ 15) ∨ ∃ n, p.channelId = .a32 n ∧ n ≤ 31) →
      ∀ ch, p.channelId = .a32 ch → ch < 32 := by
    rintro (⟨n, e, _⟩ | ⟨n, e, hn⟩) ch hch
    · rw [e] at hch; cases hch
    · rw [e] at hch; cases hch; omega
  rcases Adc.adc_decoded_wf b p h with w | w
  · exact ⟨chan w.chan, fun v hv => by rw [w.wave] at hv; cases hv⟩
  · exact ⟨chan w.chan, w.samples⟩

/-- What `try_from_banks` uses of a decoded chunk: `board_id()` and `after_id()` do not panic. -/
theorem chunk_facts (b : List UInt8) (c : Chunk.Chunk) (h : Chunk.decodeChunk b = .ok c) :
    (Chunk.boardOfDeviceId c.deviceId).isSome = true ∧ (Chunk.afterOfNat c.channelId).isSome = true :=
  have hv := C01.decoded_chunk_valid b c h
  ⟨hv.1, (Chunk.afterOfNat_some_iff _).2 hv.2.1⟩

/-- What `try_from_banks` uses of a reassembled PWB packet. -/
theorem pwb_facts (b : List UInt8) (p : Pwb.PwbPacket) (h : Pwb.decodePwb b = .ok p) :
    p.afterId < 4
    ∧ (∀ n, Pwb.ChannelId.pad n ∈ p.channelsSent → 1 ≤ n ∧ n ≤ 72)
    ∧ (∀ c ∈ p.channelsSent, ∃ wf, Pwb.waveformAt p c = .ok (some wf)
        ∧ ∀ v ∈ wf, -32768 ≤ v ∧ v ≤ 32767) := by
  refine ⟨?_, ?_, ?_⟩
  · obtain ⟨w, rfl⟩ := (Pwb.decodePwb_ok_iff b p).1 h
    have := w.chip
    simp only [Pwb.fields]
    omega
  · intro n hn
    have hs := (Pwb.pwb_channels_sent b p h).1
    have : some (Pwb.ChannelId.pad n) ∈ p.channelsSent.map some := List.mem_map.2 ⟨_, hn, rfl⟩
    rw [hs] at this
    obtain ⟨i, _, hi⟩ := List.mem_map.1 this
    exact Pwb.readout_bijective.2.2.2.1 (i + 1) (.pad n) hi
  · intro c hc
    obtain ⟨k, hk, rfl⟩ := List.mem_iff_getElem.1 hc
    refine ⟨_, (Pwb.pwb_waveform b p h).1 k hk, ?_⟩
    intro v hv
    obtain ⟨j, _, rfl⟩ := List.mem_map.1 hv
    exact toSigned16_bounds _ (leAt_lt b (Pwb.blockOff b k + 4 + 2 * j) 2)

theorem packetBoard_mem {b : List UInt8} {p : Pwb.PwbPacket} (h : Pwb.decodePwb b = .ok p) :
    packetBoard p ∈ padwingBoards := by
  obtain ⟨r, rfl⟩ := (Pwb.decodePwb_ok_iff_raw b p).1 h
  cases hx : Pwb.boardOfMac (Pwb.macOf b) with
  | none => exact absurd hx r.mac
  | some t =>
    rw [show packetBoard (Pwb.decoded b) = t by
      simp only [packetBoard, Pwb.decoded, hx, Option.getD_some]]
    exact (find?_key_eq_some hx).2

theorem wireMapExists_of_ok {run b c w : Nat} (h : wirePosition run b c = .ok w) :
    wireMapExists run :=
  Decidable.by_contra fun hm => by
    obtain ⟨e, he⟩ := wire_no_map_errors run hm b c
    rw [he] at h; cases h

theorem wirePosition_ok_lt (run b c w : Nat) (hb : b < 8) (hc : c < 32)
    (h : wirePosition run b c = .ok w) : w < 256 := by
  obtain ⟨w', hw', e⟩ := (wire_bijection run (wireMapExists_of_ok h)).total b c hb hc
  rw [e] at h; cases h; exact hw'

theorem padPosition_cases (run b chip ch : Nat) (hb : b < padwingBoards.length) (hchip : chip < 4)
    (h1 : 1 ≤ ch) (h2 : ch ≤ 72) :
    (∃ p, p.1 < 32 ∧ p.2 < 576 ∧ padPosition run b chip ch = .ok p)
    ∨ (∃ e, padPosition run b chip ch = .err e) := by
  rcases pwbPosition_cases run with ⟨hm, -⟩ | ⟨-, v, hv⟩
  · have B := pad_bijection run hm
    by_cases hi : installed run b
    · exact Or.inl (B.total b chip ch hb hi hchip h1 h2)
    · exact Or.inr (B.notInstalled b chip ch hb hi)
  · exact Or.inr ⟨v, by simp only [padPosition, padCompose, hv]⟩

theorem pwbMapExists_of_ok {run b chip ch : Nat} {pos : Nat × Nat}
    (h : padPosition run b chip ch = .ok pos) : pwbMapExists run := by
  rcases pwbPosition_cases run with ⟨hm, -⟩ | ⟨-, v, hv⟩
  · exact hm
  · simp only [padPosition, padCompose, hv] at h; cases h

theorem padPosition_noPanic (run b chip ch : Nat) (hb : b < padwingBoards.length)
    (hchip : chip < 4) (h1 : 1 ≤ ch) (h2 : ch ≤ 72) : NoPanic (padPosition run b chip ch) := by
  rcases padPosition_cases run b chip ch hb hchip h1 h2 with ⟨p, _, _, e⟩ | ⟨v, e⟩
  · rw [e]; exact noPanic_ok _
  · rw [e]; exact noPanic_err _

theorem padPosition_ok_lt (run b chip ch : Nat) (pos : Nat × Nat) (hb : b < padwingBoards.length)
    (hchip : chip < 4) (h1 : 1 ≤ ch) (h2 : ch ≤ 72) (h : padPosition run b chip ch = .ok pos) :
    pos.1 < 32 ∧ pos.2 < 576 := by
  rcases padPosition_cases run b chip ch hb hchip h1 h2 with ⟨p, a, c, e⟩ | ⟨v, e⟩
  · rw [e] at h; cases h; exact ⟨a, c⟩
  · rw [e] at h; cases h

end AlphaG.Event
