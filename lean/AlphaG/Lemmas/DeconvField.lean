import AlphaG.Model.Deconv
/-
The exact-arithmetic instance of the carrier: any linearly ordered field (core Lean's
`Lean.Grind.Field` + `Lean.Grind.OrderedRing` + `Std.IsLinearOrder`; `Rat` is an instance), with
an arbitrary element `top` standing for `f64::INFINITY` (a field has no largest element; theorems
that depend on `+∞` state what they need of `top` as a hypothesis). Also the precondition
`ResponseNeg` of the deconvolution, which is for any carrier.
-/
namespace AlphaG.Deconv
open Lean Grind Std

/-- `Ops` of a linearly ordered field. -/
def fieldOps {F : Type} [Field F] [LE F] [LT F] [DecidableLT F] [DecidableLE F] (top : F) :
    Ops F where
  zero := 0
  inf := top
  sumInit := 0
  add := (· + ·)
  sub := (· - ·)
  mul := (· * ·)
  div := (· / ·)
  min := fun a b => if b < a then b else a
  lt := fun a b => decide (a < b)
  le := fun a b => decide (a ≤ b)

section
variable {F : Type} [Field F] [LE F] [LT F] [DecidableLT F] [DecidableLE F] (top : F)

@[simp] theorem fieldOps_zero : (fieldOps top).zero = (0 : F) := rfl
@[simp] theorem fieldOps_inf : (fieldOps top).inf = top := rfl
@[simp] theorem fieldOps_sumInit : (fieldOps top).sumInit = (0 : F) := rfl
@[simp] theorem fieldOps_add (a b : F) : (fieldOps top).add a b = a + b := rfl
@[simp] theorem fieldOps_sub (a b : F) : (fieldOps top).sub a b = a - b := rfl
@[simp] theorem fieldOps_mul (a b : F) : (fieldOps top).mul a b = a * b := rfl
@[simp] theorem fieldOps_div (a b : F) : (fieldOps top).div a b = a / b := rfl
@[simp] theorem fieldOps_min (a b : F) : (fieldOps top).min a b = if b < a then b else a := rfl
@[simp] theorem fieldOps_lt (a b : F) : (fieldOps top).lt a b = decide (a < b) := rfl
@[simp] theorem fieldOps_le (a b : F) : (fieldOps top).le a b = decide (a ≤ b) := rfl
@[simp] theorem fieldOps_nonneg (a : F) : (fieldOps top).nonneg a = decide (0 ≤ a) := rfl
@[simp] theorem fieldOps_isNeg (a : F) : (fieldOps top).isNeg a = decide (a < 0) := rfl
end

/-- "The response is negative on the window `response[off..][..la]`" (the Rust `assert!`), for
any carrier. The harness checks it on the real tables for every window setting in use. -/
def ResponseNeg {α : Type} (o : Ops α) (resp : List α) (off la : Nat) : Prop :=
  off + la ≤ resp.length ∧ ∀ r ∈ respWindow resp off la, o.isNeg r = true

end AlphaG.Deconv
