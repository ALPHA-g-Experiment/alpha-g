import AlphaG.Model.Adc
import AlphaG.Lemmas.Bytes
/-
Lemmas for the ADC packet model (C02 / C01): sample decoding, the `i32` baseline sum, floor
division; for the converse round trip, the shape of the long-form encoding (32 header bytes ++
samples ++ 4 footer bytes) and the fields read back out of it. Core Lean only.
-/
namespace AlphaG.Adc

/-! ### Samples -/

theorem i16s_length : ∀ (l : List UInt8), (i16s l).length = l.length / 2
  | [] => rfl
  | [_] => by simp [i16s]
  | a :: c :: rest => by
    rw [i16s, List.length_cons, i16s_length rest, List.length_cons, List.length_cons]
    omega

theorem i16s_bounds : ∀ (l : List UInt8), ∀ x ∈ i16s l, -32768 ≤ x ∧ x ≤ 32767
  | [], _, hx | [_], _, hx => nomatch hx
  | a :: c :: rest, x, hx => by
    rcases List.mem_cons.1 hx with rfl | hx
    · have ha := UInt8.toNat_lt a; have hc := UInt8.toNat_lt c
      exact toSigned16_bounds _ (by omega)
    · exact i16s_bounds rest x hx

theorem i16s_take_eq_map (n : Nat) : ∀ (l : List UInt8), 2 * n ≤ l.length →
    i16s (l.take (2 * n)) = (List.range n).map (fun i => toSigned 16 (beAt l (2 * i) 2)) := by
  induction n with
  | zero => intro l _; simp [i16s]
  | succ n ih =>
    intro l hl
    match l, hl with
    | a :: c :: rest, hl =>
      have hr : 2 * n ≤ rest.length := by simp at hl; omega
      rw [show 2 * (n + 1) = 2 * n + 1 + 1 by omega, List.take_succ_cons, List.take_succ_cons,
        i16s, ih rest hr, List.range_succ_eq_map, List.map_cons, List.map_map]
      congr 1
      · simp [beAt_two, byteAt_cons_succ, byteAt_cons_zero]

theorem encodeSamples_i16s : ∀ (l : List UInt8), l.length % 2 = 0 → encodeSamples (i16s l) = l
  | [], _ => rfl
  | [_], h => nomatch h
  | a :: c :: rest, h => by
    have ha := UInt8.toNat_lt a; have hc := UInt8.toNat_lt c
    have hr : rest.length % 2 = 0 := by simp at h; omega
    rw [i16s, encodeSamples, encodeSamples_i16s rest hr,
      ofSigned_toSigned (bits := 16) (by omega)]
    have e1 : (a.toNat * 256 + c.toNat) % 256 = c.toNat := by omega
    have e2 : (a.toNat * 256 + c.toNat) / 256 % 256 = a.toNat := by omega
    simp [beBytes, leBytes, e1, e2]

/-! ### The baseline sum -/

theorem sumFitsI32_of_bounds (l : List Int) : ∀ (acc : Int),
    (∀ x ∈ l, -32768 ≤ x ∧ x ≤ 32767) →
    -2147483648 ≤ acc - 32768 * (l.length : Int) → acc + 32767 * (l.length : Int) ≤ 2147483647 →
    sumFitsI32 acc l = true := by
  induction l with
  | nil => intros; rfl
  | cons x xs ih =>
    intro acc h h1 h2
    have hx := h x (List.mem_cons_self)
    simp only [List.length_cons] at h1 h2
    simp only [sumFitsI32, Bool.and_eq_true, decide_eq_true_eq]
    exact ⟨by omega,
      ih (acc + x) (fun y hy => h y (List.mem_cons_of_mem _ hy)) (by omega) (by omega)⟩

/-- C02 (`adc_baseline_floor` core): the truncating `num / 64`, `num % 64 < 0 → d - 1`
computation is floor division. -/
theorem floorDiv64_eq_fdiv (n : Int) : floorDiv64 n = Int.fdiv n 64 := by
  unfold floorDiv64
  rw [Int.fdiv_eq_ediv_of_nonneg _ (by omega : (0 : Int) ≤ 64), Int.tdiv_eq_ediv, Int.tmod_eq_emod]
  have h1 : (64 : Int).sign = 1 := rfl
  have h2 : (64 : Int).natAbs = 64 := rfl
  rw [h1, h2]
  split <;> split <;> omega

theorem fdiv64_bounds (l : List Int) (hl : l.length ≤ 64) (h : ∀ x ∈ l, -32768 ≤ x ∧ x ≤ 32767) :
    -32768 ≤ Int.fdiv l.sum 64 ∧ Int.fdiv l.sum 64 ≤ 32767 := by
  rw [Int.fdiv_eq_ediv_of_nonneg _ (by omega : (0 : Int) ≤ 64)]
  have := sum_bounds (-32768) 32767 l h
  omega

/-! ### The long-form encoding read back (for `decode (encode p) = .ok p`, Props/C02Converse.lean) -/

theorem encodeSamples_length (w : List Int) : (encodeSamples w).length = 2 * w.length := by
  induction w with
  | nil => rfl
  | cons s rest ih =>
    rw [encodeSamples, List.length_append, beBytes_length, ih, List.length_cons]
    omega

theorem i16s_encodeSamples (w : List Int) (h : ∀ x ∈ w, -32768 ≤ x ∧ x ≤ 32767) :
    i16s (encodeSamples w) = w := by
  induction w with
  | nil => rfl
  | cons s rest ih =>
    have hs := h s List.mem_cons_self
    have ho := ofSigned_lt (bits := 16) s
    have hso := toSigned_ofSigned (bits := 16) (by decide) ⟨hs.1, by omega⟩
    rw [encodeSamples, beBytes_two, List.cons_append, List.cons_append, List.nil_append,
      i16s, ih (fun x hx => h x (List.mem_cons_of_mem _ hx))]
    have e : (UInt8.ofNat (ofSigned 16 s / 256 % 256)).toNat * 256
        + (UInt8.ofNat (ofSigned 16 s % 256)).toNat = ofSigned 16 s := by
      simp only [UInt8.toNat_ofNat']
      omega
    rw [e, hso]

def longHeader (trig module chb req ts m0 m1 m2 m3 m4 m5 off build : Nat) : List UInt8 :=
  [1, 3] ++ beBytes trig 2 ++ [UInt8.ofNat module] ++ [UInt8.ofNat chb] ++ beBytes req 2
    ++ beBytes (ts % 4294967296) 4 ++ beBytes 0 2 ++ [m0, m1, m2, m3, m4, m5].map UInt8.ofNat
    ++ beBytes (ts / 4294967296) 4 ++ beBytes off 4 ++ beBytes build 4

theorem longHeader_length (trig module chb req ts m0 m1 m2 m3 m4 m5 off build : Nat) :
    (longHeader trig module chb req ts m0 m1 m2 m3 m4 m5 off build).length = 32 := by
  simp only [longHeader, List.length_append, List.length_cons, List.length_nil, List.length_map,
    beBytes_length]

theorem encode_long_eq (p : Packet) {name : String} {m0 m1 m2 m3 m4 m5 : Nat}
    (hbd : p.boardId = some (name, [m0, m1, m2, m3, m4, m5])) :
    encode p = longHeader p.acceptedTrigger p.moduleId (channelByte p.channelId)
        p.requestedSamples p.eventTimestamp m0 m1 m2 m3 m4 m5
        (ofSigned 32 (p.triggerOffset.getD 0)) (p.buildTimestamp.getD 0)
      ++ (encodeSamples p.waveform ++ encodeFooter p) := by
  simp only [encode, hbd, longHeader, List.append_assoc]

/-- Stated about a `b` with `hb`, so that the 13-argument header is written once; `T` is whatever
follows the header. -/
theorem longHeader_reads {trig module chb req ts m0 m1 m2 m3 m4 m5 off build : Nat}
    {T b : List UInt8} (hb : b = longHeader trig module chb req ts m0 m1 m2 m3 m4 m5 off build ++ T)
    (h1 : trig < 65536) (h2 : module < 256) (h3 : chb < 256) (h4 : req < 65536)
    (h5 : ts < 18446744073709551616) (g0 : m0 < 256) (g1 : m1 < 256) (g2 : m2 < 256)
    (g3 : m3 < 256) (g4 : m4 < 256) (g5 : m5 < 256) (h6 : off < 4294967296)
    (h7 : build < 4294967296) :
    byteAt b 0 = 1 ∧ byteAt b 1 = 3 ∧ beAt b 2 2 = trig ∧ byteAt b 4 = module ∧ byteAt b 5 = chb ∧
    beAt b 6 2 = req ∧ beAt b 8 4 = ts % 4294967296 ∧ byteAt b 12 = 0 ∧ byteAt b 13 = 0 ∧
    macAt b = [m0, m1, m2, m3, m4, m5] ∧ beAt b 20 4 = ts / 4294967296 ∧ beAt b 24 4 = off ∧
    beAt b 28 4 = build := by
  subst hb
  have z0 : byteAt (beBytes 0 2) 0 = 0 := rfl
  have z1 : byteAt (beBytes 0 2) 1 = 0 := rfl
  simp only [longHeader, macAt, List.append_assoc, List.map_cons, List.map_nil, List.length_cons,
    List.length_nil, beBytes_length, Nat.reduceAdd, Nat.reduceSub, Nat.reduceLeDiff, Nat.reduceLT,
    beAt_append_right, beAt_append_left, beAt_beBytes, byteAt_append_right, byteAt_append_left,
    byteAt_cons_zero, byteAt_cons_succ, UInt8.toNat_ofNat', UInt8.reduceToNat, Nat.reducePow,
    Nat.mod_eq_of_lt, true_and, and_true, *]
  -- left: both timestamp halves are below `2^32` (`ts / 2^32` by `h5`)
  omega

theorem encodeFooter_length (p : Packet) : (encodeFooter p).length = 4 := by
  simp only [encodeFooter, List.length_append, beBytes_length]

theorem encodeFooter_reads (p : Packet) (h : footerWord p < 65536) :
    beAt (encodeFooter p) 0 2 = footerWord p ∧
    beAt (encodeFooter p) 2 2 = ofSigned 16 p.suppressionBaseline := by
  have := ofSigned_lt (bits := 16) p.suppressionBaseline
  simp only [encodeFooter, beBytes_length, beAt_append_right, beAt_append_left, beAt_beBytes,
    Nat.reduceAdd, Nat.reduceSub, Nat.reduceLeDiff, Nat.reducePow, Nat.mod_eq_of_lt, and_self, *]

theorem footerWord_fields (p : Packet) (h : p.keepLast < 4096) :
    footerWord p < 65536 ∧ footerWord p % 2 ^ 12 = p.keepLast ∧
    decide (footerWord p / 2 ^ 12 % 2 = 1) = p.keepBit ∧
    decide (footerWord p / 2 ^ 13 % 2 = 1) = p.suppressionEnabled := by
  unfold footerWord
  cases p.keepBit <;> cases p.suppressionEnabled <;> simp <;> omega

/-! A slice that ends in 4 footer bytes `F`, and one that has 32 header bytes before them. -/

theorem footer_append (A F : List UInt8) (hF : F.length = 4) : footer (A ++ F) = beAt F 0 2 := by
  rw [footer, beAt_append_right _ _ _ _ (by rw [List.length_append]; omega), List.length_append, hF,
    show A.length + 4 - 4 - A.length = 0 by omega]

theorem suppBaseline_append (A F : List UInt8) (hF : F.length = 4) :
    suppBaseline (A ++ F) = toSigned 16 (beAt F 2 2) := by
  rw [suppBaseline, beAt_append_right _ _ _ _ (by rw [List.length_append]; omega),
    List.length_append, hF, show A.length + 4 - 2 - A.length = 2 by omega]

theorem wave_append (H W F : List UInt8) (hH : H.length = 32) (hF : F.length = 4) :
    wave (H ++ (W ++ F)) = i16s W := by
  rw [wave, List.drop_left' hH, List.length_append, List.length_append, hH, hF,
    show 32 + (W.length + 4) - 36 = W.length by omega, List.take_left' rfl]

end AlphaG.Adc
