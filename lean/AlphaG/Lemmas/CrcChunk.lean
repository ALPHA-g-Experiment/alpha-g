import AlphaG.Lemmas.Bytes
import AlphaG.Lemmas.CrcOrbit
/-
Byte-level helpers for the chunk theorems: xor of byte strings as xor of bit strings,
`bitsOf` under `take`/`drop`, odd weight by parity (`run_zero_count_odd`), and the combinatorics
that turns "weight 2" and "burst" error patterns into the shapes of `run_zero_two`,
`run_zero_burst`; the stored `!crc32c` word as the raw register (`crcInv_eq_run`)
and the zero residue of a region that ends in its own stored word (`residue_of_stored`).
-/
namespace AlphaG.Crc

/-- Bytewise xor of a byte string with an error pattern. -/
def xorBytes (b e : List UInt8) : List UInt8 := List.zipWith (· ^^^ ·) b e

theorem length_xorBytes (b e : List UInt8) (h : e.length = b.length) :
    (xorBytes b e).length = b.length := by
  simp [xorBytes, h]

theorem bit_xor (x y : UInt8) (i : Nat) : bit (x ^^^ y) i = (bit x i != bit y i) := by
  simp [bit, UInt8.toNat_xor, Nat.testBit_xor]

theorem bitsOf_xorBytes : ∀ (b e : List UInt8),
    bitsOf (xorBytes b e) = List.zipWith (· != ·) (bitsOf b) (bitsOf e)
  | [], _ => by simp [xorBytes, bitsOf]
  | x :: b, [] => by simp [xorBytes, bitsOf]
  | x :: b, y :: e => by
    have ih := bitsOf_xorBytes b e
    simp only [xorBytes] at ih
    simp only [xorBytes, List.zipWith_cons_cons, bitsOf, byteBits, List.cons_append,
      List.nil_append, bit_xor, ih]

theorem bitsOf_take : ∀ (m : List UInt8) (n : Nat), bitsOf (m.take n) = (bitsOf m).take (8 * n)
  | [], n => by simp [bitsOf]
  | x :: m, 0 => by simp [bitsOf]
  | x :: m, n + 1 => by
    rw [List.take_succ_cons, bitsOf, bitsOf, bitsOf_take m n, show 8 * (n + 1) = 8 * n + 8 by omega]
    simp only [byteBits, List.cons_append, List.nil_append, List.take_succ_cons]

theorem bitsOf_drop : ∀ (m : List UInt8) (n : Nat), bitsOf (m.drop n) = (bitsOf m).drop (8 * n)
  | [], n => by simp [bitsOf]
  | x :: m, 0 => by simp
  | x :: m, n + 1 => by
    rw [List.drop_succ_cons, bitsOf, bitsOf_drop m n, show 8 * (n + 1) = 8 * n + 8 by omega]
    simp only [byteBits, List.cons_append, List.nil_append, List.drop_succ_cons]

theorem count_zero_all_false (m : List Bool) (h : m.count true = 0) :
    m = List.replicate m.length false :=
  List.eq_replicate_iff.2 ⟨rfl, fun _ hb =>
    Bool.eq_false_iff.2 fun e => List.count_eq_zero.1 h (e ▸ hb)⟩

theorem split_first_true : ∀ (m : List Bool), 0 < m.count true →
    ∃ a rest, m = List.replicate a false ++ true :: rest ∧ rest.count true + 1 = m.count true
  | [], h => by simp at h
  | true :: m, _ => ⟨0, m, by simp, by simp⟩
  | false :: m, h => by
    have h' : 0 < m.count true := by simpa using h
    obtain ⟨a, rest, e, hc⟩ := split_first_true m h'
    refine ⟨a + 1, rest, ?_, by simpa using hc⟩
    rw [List.replicate_succ, List.cons_append, ← e]

theorem count_take_add_drop (m : List Bool) (n : Nat) :
    (m.take n).count true + (m.drop n).count true = m.count true := by
  rw [← List.count_append, List.take_append_drop]

theorem run_zero_count_odd (m : List Bool) (h : m.count true % 2 = 1) : run 0#32 m ≠ 0#32 := by
  intro h0
  have := parity_run m 0#32
  rw [h0, parity_zero, par_eq_count, h] at this
  cases this

theorem run_zero_count_two (m : List Bool) (h : m.count true = 2) (hl : m.length ≤ 2147483647) :
    run 0#32 m ≠ 0#32 := by
  obtain ⟨a, r1, e1, c1⟩ := split_first_true m (by omega)
  obtain ⟨k, r2, e2, c2⟩ := split_first_true r1 (by omega)
  have e3 := count_zero_all_false r2 (by omega)
  have hm : m = List.replicate a false ++ [true] ++ List.replicate k false ++ [true]
      ++ List.replicate r2.length false := by
    rw [e1, e2, ← e3]; simp
  have hlen : m.length = a + 1 + k + 1 + r2.length := by
    rw [hm]; simp; omega
  rw [hm]
  exact run_zero_two a k r2.length (by omega)

/-- A burst of ≤ 32 bits cut at any position `n`: if both parts have zero residue the burst
is all zero. -/
theorem burst_split_zero (n a z : Nat) (bs : List Bool) (h : bs.length ≤ 32)
    (h1 : run 0#32 ((List.replicate a false ++ bs ++ List.replicate z false).take n) = 0#32)
    (h2 : run 0#32 ((List.replicate a false ++ bs ++ List.replicate z false).drop n) = 0#32) :
    ∀ x ∈ bs, x = false := by
  -- `take`/`drop` of zeros–block–zeros is again zeros–(part of the block)–zeros
  simp only [List.take_append, List.take_replicate, List.length_replicate] at h1
  simp only [List.drop_append, List.drop_replicate, List.length_replicate] at h2
  have t := run_zero_burst _ _ (bs.take (n - a)) (by simp; omega) h1
  have d := run_zero_burst _ _ (bs.drop (n - a)) (by simp; omega) h2
  intro x hx
  rw [← List.take_append_drop (n - a) bs, List.mem_append] at hx
  rcases hx with hx | hx
  · exact t x hx
  · exact d x hx

/-- `!crc32c(m)` is the raw register after `m` (the two complements cancel). -/
theorem crcInv_eq_run (m : List UInt8) : crcInv m = (run ONES (bitsOf m)).toNat := by
  unfold crcInv crc32cBV reg
  rw [BitVec.not_not, runBytes_eq_run]

theorem crcInv_lt (m : List UInt8) : crcInv m < 2 ^ 32 := (~~~ crc32cBV m).isLt

/-- Residue form for a stored word: a region `data ++ word` whose 4-byte little-endian word is
`!crc32c(data)` drives the register from all-ones to 0. -/
theorem residue_of_stored (r : List UInt8) (n : Nat) (hn : n + 4 = r.length)
    (h : leAt r n 4 = crcInv (r.take n)) : run ONES (bitsOf r) = 0#32 := by
  have hs : r = r.take n ++ leBytes (run ONES (bitsOf (r.take n))).toNat 4 := by
    rw [← crcInv_eq_run, ← h, leBytes_leAt r n 4 (by omega)]
    have : (r.drop n).take 4 = r.drop n := List.take_of_length_le (by simp; omega)
    rw [this, List.take_append_drop]
  rw [hs]
  exact run_stored ONES (r.take n)

end AlphaG.Crc
