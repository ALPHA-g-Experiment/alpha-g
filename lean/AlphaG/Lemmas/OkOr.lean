import AlphaG.Model.Basic
/-
Partial correctness for `Outcome`: `OkOr Q r P` says that `r` is a value satisfying `P` or a panic whose
site satisfies `Q`, and never an error. `OkOr.bind` is the sequencing rule; with it a chain of `bind`s is
handled stage by stage without case splits on the intermediate outcomes. Core Lean only.
-/
namespace AlphaG.Outcome

variable {ε β γ : Type} {Q Q' : String → Prop} {r : Outcome ε β} {P P' : β → Prop}

def OkOr (Q : String → Prop) (r : Outcome ε β) (P : β → Prop) : Prop :=
  match r with
  | .ok b => P b
  | .panic s => Q s
  | .err _ => False

theorem OkOr.ok {b : β} (h : P b) : OkOr Q (.ok b : Outcome ε β) P := h

theorem OkOr.panic {s : String} (h : Q s) : OkOr Q (.panic s : Outcome ε β) P := h

theorem OkOr.bind {f : β → Outcome ε γ} {R : γ → Prop} (h : OkOr Q r P) (hf : ∀ b, P b → OkOr Q (f b) R) :
    OkOr Q (r.bind f) R := by
  cases r with
  | ok b => exact hf b h
  | panic s => exact h
  | err e => exact h

theorem OkOr.mono (h : OkOr Q r P) (hP : ∀ b, P b → P' b) (hQ : ∀ s, Q s → Q' s) : OkOr Q' r P' := by
  cases r with
  | ok b => exact hP b h
  | panic s => exact hQ s h
  | err e => exact h

theorem OkOr.of_ok {b : β} (h : OkOr Q r P) (e : r = .ok b) : P b := by subst e; exact h

theorem OkOr.of_panic {s : String} (h : OkOr Q r P) (e : r = .panic s) : Q s := by subst e; exact h

theorem OkOr.ne_err {e : ε} (h : OkOr Q r P) : r ≠ .err e := by rintro rfl; exact h

theorem OkOr.cases (h : OkOr Q r P) : (∃ b, r = .ok b ∧ P b) ∨ ∃ s, r = .panic s ∧ Q s := by
  cases r with
  | ok b => exact .inl ⟨b, rfl, h⟩
  | panic s => exact .inr ⟨s, rfl, h⟩
  | err e => exact h.elim

/-- For a `bind` whose continuation needs the equation. -/
theorem OkOr.and_eq (h : OkOr Q r P) : OkOr Q r fun b => r = .ok b ∧ P b := by
  cases r with
  | ok b => exact ⟨rfl, h⟩
  | panic s => exact h
  | err e => exact h

theorem OkOr.and_panic_eq (h : OkOr Q r P) : OkOr (fun s => r = .panic s ∧ Q s) r P := by
  cases r with
  | ok b => exact h
  | panic s => exact ⟨rfl, h⟩
  | err e => exact h

theorem OkOr.total (h : OkOr Q r P) (hQ : ∀ s, ¬ Q s) : ∃ b, r = .ok b := by
  rcases h.cases with ⟨b, e, _⟩ | ⟨s, _, hs⟩
  · exact ⟨b, e⟩
  · exact absurd hs (hQ s)

end AlphaG.Outcome
