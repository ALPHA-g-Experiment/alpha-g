import AlphaG.Model.BankName
import AlphaG.Lemmas.Bytes
/-
The bank-name sub-parsers (C08 names, C01 bank-name totality). A string that passes the ASCII
screening of `Adc16BankName` / `Adc32BankName` / `PadwingBankName` consists of four one-byte
characters, so every later `&name[a..]` slice is on a character boundary and the parser comes
down to its table lookups (`adcName_four`, `padwingName_pc`); every other string is a
`PatternMismatch` (`adcName_shape`, `padwingName_shape`). Totality and the accepted strings
(`*_ok_iff`) are read off these two. Core Lean only.
-/
namespace AlphaG.BankName
open AlphaG AlphaG.Generated

theorem utf8Len_ascii {c : Nat} (h : c < 128) : utf8Len c = 1 := by
  unfold utf8Len; rw [if_pos h]

theorem utf8Len_pos (c : Nat) : 1 ≤ utf8Len c := by
  unfold utf8Len
  split
  · omega
  split
  · omega
  split <;> omega

theorem alnum_lt {c : Nat} (h : isAsciiAlnum c = true) : c < 128 := by
  simp only [isAsciiAlnum, isAsciiDigit, isAsciiUpper, isAsciiLower, Bool.or_eq_true,
    decide_eq_true_eq] at h
  omega

theorem digit_lt {c : Nat} (h : isAsciiDigit c = true) : c < 128 := by
  simp only [isAsciiDigit, decide_eq_true_eq] at h
  omega

theorem byteLen_ascii (cs : List Nat) (h : ∀ c, c ∈ cs → c < 128) : byteLen cs = cs.length := by
  induction cs with
  | nil => rfl
  | cons c cs ih =>
    simp only [byteLen, List.length_cons]
    rw [utf8Len_ascii (h c List.mem_cons_self), ih (fun x hx => h x (List.mem_cons_of_mem _ hx))]
    omega

theorem length_four {α : Type} (l : List α) (h : l.length = 4) : ∃ a b c d, l = [a, b, c, d] := by
  match l, h with
  | [a, b, c, d], _ => exact ⟨a, b, c, d, rfl⟩

theorem length_two {α : Type} (l : List α) (h : l.length = 2) : ∃ a b, l = [a, b] := by
  match l, h with
  | [a, b], _ => exact ⟨a, b, rfl⟩

theorem lookupIdx_some (ns : List (List Nat)) (x : List Nat) (i : Nat)
    (h : lookupIdx ns x = some i) : ns[i]? = some x := by
  induction ns generalizing i with
  | nil => cases h
  | cons n ns ih =>
    rw [lookupIdx] at h
    split at h
    · cases h; subst_vars; rfl
    · obtain ⟨j, hj, rfl⟩ := Option.map_eq_some_iff.1 h
      exact ih j hj

theorem lookupIdx_lt (ns : List (List Nat)) (x : List Nat) (i : Nat)
    (h : lookupIdx ns x = some i) : i < ns.length := by
  have := lookupIdx_some ns x i h
  exact (List.getElem?_eq_some_iff.1 this).1

theorem lookupIdx_getElem (ns : List (List Nat)) (hn : ns.Nodup) (i : Nat) (x : List Nat)
    (h : ns[i]? = some x) : lookupIdx ns x = some i := by
  induction ns generalizing i with
  | nil => simp at h
  | cons n ns ih =>
    rw [List.nodup_cons] at hn
    cases i with
    | zero => simp only [List.getElem?_cons_zero, Option.some.injEq] at h; simp [lookupIdx, h]
    | succ j =>
      simp only [List.getElem?_cons_succ] at h
      have : n ≠ x := fun e => hn.1 (e ▸ List.mem_of_getElem? h)
      simp [lookupIdx, this, ih hn.2 j h]

theorem slices_four (a b c d : Nat) (ha : a < 128) (hb : b < 128) (hc : c < 128) :
    sliceFrom [a, b, c, d] 1 = some [b, c, d] ∧ sliceTo [b, c, d] 2 = some [b, c]
      ∧ sliceFrom [a, b, c, d] 3 = some [d] := by
  simp [sliceFrom, sliceTo, utf8Len_ascii ha, utf8Len_ascii hb, utf8Len_ascii hc]

/-- Digit value ↦ its (upper-case) character. -/
def digitCode (v : Nat) : Nat := if v < 10 then 48 + v else 55 + v

/-- A character that passes the screen of `Adc16BankName`/`Adc32BankName`. -/
def Screened (c : Nat) : Prop := isAsciiAlnum c = true ∧ isAsciiLower c = false

theorem toDigit_upper (d radix t : Nat) (hd : Screened d) (h : toDigit d radix = some t) :
    t < radix ∧ d = digitCode t := by
  obtain ⟨h1, h2⟩ := hd
  simp only [isAsciiAlnum, isAsciiDigit, isAsciiUpper, isAsciiLower, Bool.or_eq_true,
    decide_eq_true_eq, decide_eq_false_iff_not] at h1 h2
  unfold digitCode
  unfold toDigit at h
  by_cases c1 : 48 ≤ d ∧ d ≤ 57
  · rw [if_pos c1] at h
    by_cases c2 : d - 48 < radix
    · rw [if_pos c2, Option.some.injEq] at h; subst h
      exact ⟨c2, by rw [if_pos (by omega)]; omega⟩
    · rw [if_neg c2] at h; cases h
  · rw [if_neg c1] at h
    by_cases c3 : radix ≤ 10
    · rw [if_pos c3] at h; cases h
    · rw [if_neg c3, if_pos (by omega)] at h
      by_cases c4 : d - 55 < radix
      · rw [if_pos c4, Option.some.injEq] at h; subst h
        exact ⟨c4, by rw [if_neg (by omega)]; omega⟩
      · rw [if_neg c4] at h; cases h

theorem fromStrRadix_one (d radix : Nat) (hne : ¬ (d = 43 ∨ d = 45)) :
    fromStrRadixU8 [d] radix =
      match toDigit d radix with
      | none => none
      | some t => if t ≤ 255 then some t else none := by
  simp only [fromStrRadixU8, hne, if_false, digitsValue]
  cases toDigit d radix with
  | none => rfl
  | some t => simp

theorem radix_one (d radix v : Nat) (hd : Screened d) (h : fromStrRadixU8 [d] radix = some v) :
    v < radix ∧ d = digitCode v := by
  have hne : ¬ (d = 43 ∨ d = 45) := by
    have h1 := hd.1
    simp only [isAsciiAlnum, isAsciiDigit, isAsciiUpper, isAsciiLower, Bool.or_eq_true,
      decide_eq_true_eq] at h1
    omega
  rw [fromStrRadix_one d radix hne] at h
  cases ht : toDigit d radix with
  | none => rw [ht] at h; cases h
  | some t =>
    rw [ht] at h
    simp only at h
    split at h
    · simp only [Option.some.injEq] at h; subst h
      exact toDigit_upper d radix t hd ht
    · cases h

theorem radix_one_conv (v radix : Nat) (hr : radix ≤ 36) (hv : v < radix) :
    fromStrRadixU8 [digitCode v] radix = some v ∧ isAsciiAlnum (digitCode v) = true
      ∧ isAsciiLower (digitCode v) = false := by
  have hne : ¬ (digitCode v = 43 ∨ digitCode v = 45) := by unfold digitCode; split <;> omega
  rw [fromStrRadix_one _ _ hne]
  simp only [isAsciiAlnum, isAsciiDigit, isAsciiUpper, isAsciiLower, Bool.or_eq_true,
    decide_eq_true_eq, decide_eq_false_iff_not]
  unfold digitCode toDigit
  by_cases h : v < 10
  · rw [if_pos h, if_pos (by omega), if_pos (by omega), show 48 + v - 48 = v by omega]
    exact ⟨if_pos (by omega), by omega, by omega⟩
  · rw [if_neg h, if_neg (by omega), if_neg (by omega), if_pos (by omega), if_pos (by omega),
      show 55 + v - 55 = v by omega]
    exact ⟨if_pos (by omega), by omega, by omega⟩

theorem screened_iff (cs : List Nat) :
    ¬ (cs.all isAsciiAlnum = false ∨ cs.any isAsciiLower = true) ↔ ∀ c ∈ cs, Screened c := by
  simp only [Screened, not_or, Bool.not_eq_false, Bool.not_eq_true, List.all_eq_true,
    List.any_eq_false, forall_and]

/-- Two characters with `P`: what a board name has to be for its bank names to pass the screen
of their parser. -/
def TwoOf (P : Nat → Prop) (b : List Nat) : Prop := b.length = 2 ∧ ∀ c ∈ b, P c

/-- On prefix + two characters + one, all screened, the slices are on boundaries, the radix is
legal and the channel fits (`radix ≤ chmax + 1`): what is left of `adcName` is the two lookups.
The literals `4 1 2 3` (length, board at `[1..][..2]`, channel at `[3..]`) are the values of the
generated `adc16Len` … `adc32ChannelFrom`. There is no named obligation for that: `adc16Name` and
`adc32Name` unfold to this form when `Props/C08Names.lean` applies the lemmas below to them, and a
regenerated constant that differs shows up there as a type mismatch. -/
theorem adcName_four (radix chmax : Nat) (hr1 : 2 ≤ radix) (hr2 : radix ≤ 36)
    (hch : radix ≤ chmax + 1) (a d : Nat) (b : List Nat) (ha : Screened a) (hb : TwoOf Screened b)
    (hd : Screened d) :
    adcName a 4 1 2 3 radix chmax (a :: (b ++ [d])) =
      match lookupIdx a16Codes b, fromStrRadixU8 [d] radix with
      | none, _ => .err .unknownBoardId
      | some _, none => .err .unknownChannelId
      | some i, some v => .ok (i, v) := by
  obtain ⟨x, y, rfl⟩ := length_two b hb.1
  have hx := hb.2 x (by simp)
  have hy := hb.2 y (by simp)
  obtain ⟨s1, s2, s3⟩ := slices_four a x y d (alnum_lt ha.1) (alnum_lt hx.1) (alnum_lt hy.1)
  have H : ∀ c ∈ [a, x, y, d], Screened c := by
    simp only [List.forall_mem_cons]; exact ⟨ha, hx, hy, hd, nofun⟩
  have hl : byteLen [a, x, y, d] = 4 := byteLen_ascii _ fun c hc => alnum_lt (H c hc).1
  have hs := (screened_iff _).2 H
  unfold adcName
  rw [List.cons_append, List.cons_append, List.nil_append,
    if_neg (by simp only [List.head?_cons, hl]; simpa using hs)]
  simp only [boardSlice, s1, s2, s3, Option.getD_some, Option.isSome_some]
  rw [need_eq rfl, need_eq rfl, need_eq rfl, need_eq (by simp only [decide_eq_true_eq]; omega)]
  cases lookupIdx a16Codes [x, y] with
  | none => rfl
  | some i =>
    cases hv : fromStrRadixU8 [d] radix with
    | none => rfl
    | some v =>
      have := (radix_one d radix v hd hv).1
      simp only [Option.isNone_some, Bool.false_eq_true, if_false, Option.getD_some]
      rw [need_eq (by simp only [decide_eq_true_eq]; omega)]

theorem adcName_shape (pre radix chmax : Nat) (cs : List Nat) :
    adcName pre 4 1 2 3 radix chmax cs = .err .patternMismatch
      ∨ ∃ b d, cs = pre :: (b ++ [d]) ∧ Screened pre ∧ TwoOf Screened b ∧ Screened d := by
  unfold adcName
  by_cases hs : cs.head? ≠ some pre ∨ byteLen cs ≠ 4 ∨ cs.all isAsciiAlnum = false
      ∨ cs.any isAsciiLower = true
  · exact Or.inl (if_pos hs)
  · simp only [not_or, ne_eq, Decidable.not_not] at hs
    obtain ⟨h0, hl, hs⟩ := hs
    rw [← not_or, screened_iff] at hs
    rw [byteLen_ascii cs fun c hc => alnum_lt (hs c hc).1] at hl
    obtain ⟨a, x, y, d, rfl⟩ := length_four cs hl
    cases Option.some.inj h0
    simp only [List.forall_mem_cons] at hs
    exact Or.inr ⟨[x, y], d, rfl, hs.1, ⟨rfl, by simp only [List.forall_mem_cons]; exact ⟨hs.2.1, hs.2.2.1, nofun⟩⟩,
      hs.2.2.2.1⟩

theorem adcName_noPanic (pre radix chmax : Nat) (hr1 : 2 ≤ radix) (hr2 : radix ≤ 36)
    (hch : radix ≤ chmax + 1) (cs : List Nat) : NoPanic (adcName pre 4 1 2 3 radix chmax cs) := by
  rcases adcName_shape pre radix chmax cs with h | ⟨b, d, rfl, ha, hb, hd⟩
  · rw [h]; exact noPanic_err _
  · rw [adcName_four radix chmax hr1 hr2 hch pre d b ha hb hd]
    split
    · exact noPanic_err _
    · exact noPanic_err _
    · exact noPanic_ok _

theorem a16Codes_length : a16Codes.length = alpha16Boards.length := List.length_map _
theorem pwbCodes_length : pwbCodes.length = padwingBoards.length := List.length_map _

theorem adcName_ok_iff (pre radix chmax : Nat) (hpre : Screened pre) (hr1 : 2 ≤ radix)
    (hr2 : radix ≤ 36) (hch : radix ≤ chmax + 1) (hn : a16Codes.Nodup)
    (h2 : ∀ b ∈ a16Codes, TwoOf Screened b) (cs : List Nat) (p : Nat × Nat) :
    adcName pre 4 1 2 3 radix chmax cs = .ok p ↔
      (p.1 < alpha16Boards.length ∧ p.2 < radix)
        ∧ cs = pre :: (a16Codes.getD p.1 [] ++ [digitCode p.2]) := by
  rw [← a16Codes_length]
  constructor
  · intro h
    rcases adcName_shape pre radix chmax cs with e | ⟨b, d, rfl, ha, hb, hd⟩
    · rw [e] at h; cases h
    · rw [adcName_four radix chmax hr1 hr2 hch pre d b ha hb hd] at h
      split at h
      · cases h
      · cases h
      · rename_i i v hi hv
        cases h
        obtain ⟨v1, v2⟩ := radix_one d radix v hd hv
        refine ⟨⟨lookupIdx_lt _ _ _ hi, v1⟩, ?_⟩
        simp [List.getD, lookupIdx_some _ _ _ hi, v2]
  · rintro ⟨⟨hi, hv⟩, rfl⟩
    have hg : a16Codes[p.1]? = some (a16Codes.getD p.1 []) := by
      simp [List.getD, List.getElem?_eq_getElem hi]
    obtain ⟨c1, c2, c3⟩ := radix_one_conv p.2 radix hr2 hv
    rw [adcName_four radix chmax hr1 hr2 hch pre _ _ hpre (h2 _ (List.mem_of_getElem? hg)) ⟨c2, c3⟩,
      lookupIdx_getElem _ hn _ _ hg, c1]

theorem sliceFrom_zero (cs : List Nat) : sliceFrom cs 0 = some cs := by
  cases cs <;> simp [sliceFrom]

theorem padwing_consts : codes padwingPrefix = [80, 67] ∧ padwingLen = 4 ∧ padwingDigitsFrom = 2
    ∧ padwingBoardFrom = 2 := by decide

theorem padwingName_pc (rest : List Nat) (h : byteLen rest = 2) :
    padwingName (80 :: 67 :: rest) =
      if rest.all isAsciiDigit = false then .err .patternMismatch else
      match lookupIdx pwbCodes rest with
      | none => .err .unknownBoardId
      | some b => .ok b := by
  obtain ⟨e1, e2, e3, e4⟩ := padwing_consts
  have u1 : utf8Len 80 = 1 := rfl
  have u2 : utf8Len 67 = 1 := rfl
  have hs : sliceFrom (80 :: 67 :: rest) 2 = some rest := by simp [sliceFrom, u1, u2, sliceFrom_zero]
  unfold padwingName
  rw [e1, e2, e3, e4, if_neg (by simp [byteLen, u1, u2, h]), hs]
  simp only [Option.isSome_some, Option.getD_some]
  rw [need_eq rfl, need_eq rfl]
  cases lookupIdx pwbCodes rest <;> rfl

theorem padwingName_shape (cs : List Nat) :
    padwingName cs = .err .patternMismatch ∨ ∃ rest, cs = 80 :: 67 :: rest ∧ byteLen rest = 2 := by
  obtain ⟨e1, e2, -, -⟩ := padwing_consts
  unfold padwingName
  by_cases hs : (codes padwingPrefix).isPrefixOf cs = false ∨ byteLen cs ≠ padwingLen
  · exact Or.inl (if_pos hs)
  · simp only [not_or, ne_eq, Decidable.not_not, Bool.not_eq_false, e1, e2,
      List.isPrefixOf_iff_prefix] at hs
    obtain ⟨⟨rest, rfl⟩, hl⟩ := hs
    have u1 : utf8Len 80 = 1 := rfl
    have u2 : utf8Len 67 = 1 := rfl
    refine Or.inr ⟨rest, rfl, ?_⟩
    simp only [List.cons_append, List.nil_append, byteLen, u1, u2] at hl; omega

theorem padwingName_noPanic (cs : List Nat) : NoPanic (padwingName cs) := by
  rcases padwingName_shape cs with h | ⟨rest, rfl, hl⟩
  · rw [h]; exact noPanic_err _
  · rw [padwingName_pc rest hl]
    split
    · exact noPanic_err _
    · split
      · exact noPanic_err _
      · exact noPanic_ok _

theorem padwingName_ok_iff (hn : pwbCodes.Nodup)
    (h2 : ∀ b ∈ pwbCodes, TwoOf (isAsciiDigit · = true) b) (cs : List Nat) (b : Nat) :
    padwingName cs = .ok b ↔ b < padwingBoards.length ∧ cs = 80 :: 67 :: pwbCodes.getD b [] := by
  rw [← pwbCodes_length]
  constructor
  · intro h
    rcases padwingName_shape cs with e | ⟨rest, rfl, hl⟩
    · rw [e] at h; cases h
    · rw [padwingName_pc rest hl] at h
      split at h
      · cases h
      · split at h
        · cases h
        · rename_i i hi
          cases h
          exact ⟨lookupIdx_lt _ _ _ hi, by simp [List.getD, lookupIdx_some _ _ _ hi]⟩
  · rintro ⟨hb, rfl⟩
    have hg : pwbCodes[b]? = some (pwbCodes.getD b []) := by
      simp [List.getD, List.getElem?_eq_getElem hb]
    obtain ⟨d1, d2⟩ := h2 _ (List.mem_of_getElem? hg)
    rw [padwingName_pc _ (by rw [byteLen_ascii _ fun c hc => digit_lt (d2 c hc), d1]),
      if_neg (by rw [List.all_eq_true.2 d2]; decide), lookupIdx_getElem _ hn _ _ hg]

theorem literalName_ok (lit : String) (cs : List Nat) (u : Unit) :
    literalName lit cs = .ok u ↔ cs = codes lit := by
  unfold literalName
  by_cases h : cs = codes lit
  · simp [h]
  · simp [h]

theorem literalName_noPanic (lit : String) (cs : List Nat) : NoPanic (literalName lit cs) := by
  unfold literalName
  apply noPanic_ite_err; intro _; exact noPanic_ok _

theorem mapOut_ok {ε ε' α β : Type} {fe : ε → ε'} {fa : α → β} {x : Outcome ε α} {b : β} :
    mapOut fe fa x = .ok b ↔ ∃ a, x = .ok a ∧ fa a = b := by
  cases x with
  | ok a => simp [mapOut]
  | err e => simp [mapOut]
  | panic s => simp [mapOut]

theorem mapOut_noPanic {ε ε' α β : Type} {fe : ε → ε'} {fa : α → β} {x : Outcome ε α}
    (h : NoPanic x) : NoPanic (mapOut fe fa x) := by
  cases x with
  | ok a => exact noPanic_ok _
  | err e => exact noPanic_err _
  | panic s => exact absurd rfl (h s)

end AlphaG.BankName
