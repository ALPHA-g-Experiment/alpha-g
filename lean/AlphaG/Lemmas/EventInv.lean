import AlphaG.Lemmas.Event
import AlphaG.Lemmas.Fold
/-
The event-assembly model step by step: what a successful step of `try_from_banks` did (inversion
lemmas, one per function of the model), and the three loops as folds of their steps, so that the
lemmas of `Lemmas/Fold.lean` apply to them.
-/
namespace AlphaG.Event
open AlphaG AlphaG.Generated AlphaG.Maps

variable {α : Type} (ops : Ops α)

/-- The state after recording the bank name. -/
def St.named (st : St α) (nm : BankName.Name) : St α :=
  { st with wireNames := st.wireNames ++ [(nm.board, nm.channel)] }

theorem wireStore_ok {run board ch : Nat} {wf : List Int} {st st' : St α}
    (h : wireStore ops run board ch wf st = .ok st') :
    ∃ w bl g d, wirePosition run board ch = .ok w ∧ w < 256 ∧ slotTaken st.wire w = false
      ∧ wireBaseline run w = .ok bl ∧ wireGainBits run w = .ok g ∧ wireDelay run = .ok d
      ∧ st' = (if (calibrate ops bl (ops.ofBits g) d wf).isEmpty then st
               else { st with
                 wire := (st.wire.setIfInBounds w (some (calibrate ops bl (ops.ofBits g) d wf))) }) := by
  unfold wireStore at h
  split at h
  · cases h
  · cases h
  · rename_i w hw
    obtain ⟨hlt, h⟩ := need_eq_ok.1 h
    obtain ⟨hs, h⟩ := ite_err_eq_ok.1 h
    split at h
    · cases h
    · cases h
    · rename_i bl hbl
      split at h
      · cases h
      · cases h
      · rename_i g hg
        split at h
        · cases h
        · cases h
        · rename_i d hd
          obtain ⟨_, h⟩ := need_eq_ok.1 h
          exact ⟨w, bl, g, d, hw, of_decide_eq_true hlt, Bool.eq_false_iff.2 hs, hbl, hg, hd,
            (Outcome.ok.inj h).symm⟩

theorem wirePacket_ok {run : Nat} {nm : BankName.Name} {p : Adc.Packet} {st st' : St α}
    (h : wirePacket ops run nm p st = .ok st') :
    ∃ ch, p.channelId = .a32 ch ∧ st.wireNames.contains (nm.board, nm.channel) = false
      ∧ (alpha16Boards[nm.board]?, nm.channel) = (boardOf nm p, ch)
      ∧ ((p.waveform = [] ∧ st' = st.named nm)
         ∨ (p.waveform ≠ [] ∧
            wireStore ops run (a16Row (boardOf nm p)) ch p.waveform (st.named nm) = .ok st')) := by
  unfold wirePacket at h
  obtain ⟨hn, h⟩ := ite_err_eq_ok.1 h
  split at h
  · cases h
  · rename_i ch hch
    obtain ⟨hid, h⟩ := ite_err_eq_ok.1 h
    refine ⟨ch, hch, Bool.eq_false_iff.2 hn, Decidable.not_not.1 hid, ?_⟩
    split at h
    · rename_i he
      exact Or.inl ⟨List.isEmpty_iff.1 he, (Outcome.ok.inj h).symm⟩
    · rename_i he
      exact Or.inr ⟨fun e => he (List.isEmpty_iff.2 e), h⟩

theorem wireBank_ok {run : Nat} {nm : BankName.Name} {data : List UInt8} {st st' : St α}
    (h : wireBank ops run nm data st = .ok st') :
    ∃ p, Adc.decodeAdcPacket data = .ok p ∧ wirePacket ops run nm p st = .ok st' := by
  unfold wireBank at h
  split at h
  · cases h
  · cases h
  · rename_i p hp; exact ⟨p, hp, h⟩

theorem padwingBank_ok {nm : BankName.Name} {data : List UInt8} {st st' : St α}
    (h : padwingBank nm data st = .ok st') :
    ∃ c, Chunk.decodeChunk data = .ok c
      ∧ Chunk.boardOfDeviceId c.deviceId = padwingBoards[nm.board]?
      ∧ st' = { st with groups := pushChunk (chunkKey c) (toChunkV c) st.groups } := by
  unfold padwingBank at h
  split at h
  · cases h
  · cases h
  · rename_i c hc
    obtain ⟨hb, h⟩ := ite_err_eq_ok.1 (need_eq_ok.1 (need_eq_ok.1 h).2).2
    exact ⟨c, hc, Decidable.not_not.1 hb, (Outcome.ok.inj h).symm⟩

theorem trgBank_ok {data : List UInt8} {st st' : St α} (h : trgBank data st = .ok st') :
    ∃ p, Trg.decode data = .ok p ∧ st.ts = none ∧ st' = { st with ts := some p.timestamp } := by
  unfold trgBank at h
  split at h
  · cases h
  · cases h
  · rename_i p hp
    obtain ⟨hn, h⟩ := ite_err_eq_ok.1 h
    exact ⟨p, hp, Option.not_isSome_iff_eq_none.1 hn, (Outcome.ok.inj h).symm⟩

theorem bankStep_ok_name {run : Nat} {b : Bank} {st st' : St α}
    (h : bankStep ops run b st = .ok st') : ∃ nm, BankName.parseBankName b.1 = .ok nm := by
  unfold bankStep at h
  split at h
  · cases h
  · cases h
  · exact ⟨_, ‹_›⟩

theorem padStore_ok {run board chip ch : Nat} {wf : List Int} {pad pad' : Array (Option (List α))}
    (h : padStore ops run board chip ch wf pad = .ok pad') :
    ∃ pos bl g d, padPosition run board chip ch = .ok pos ∧ pos.1 < 32 ∧ pos.2 < 576
      ∧ slotTaken pad (pos.1 * nPadRows + pos.2) = false
      ∧ padBaseline run pos.1 pos.2 = .ok bl ∧ padGainBits run pos.1 pos.2 = .ok g
      ∧ padDelay run = .ok d
      ∧ pad' = (if (calibrate ops bl (ops.ofBits g) d wf).isEmpty then pad
                else pad.setIfInBounds (pos.1 * nPadRows + pos.2)
                  (some (calibrate ops bl (ops.ofBits g) d wf))) := by
  unfold padStore at h
  split at h
  · cases h
  · cases h
  · rename_i pos hpos
    obtain ⟨hc, h⟩ := need_eq_ok.1 h
    obtain ⟨hr, h⟩ := need_eq_ok.1 h
    obtain ⟨hs, h⟩ := ite_err_eq_ok.1 h
    split at h
    · cases h
    · cases h
    · rename_i bl hbl
      split at h
      · cases h
      · cases h
      · rename_i g hg
        split at h
        · cases h
        · cases h
        · rename_i d hd
          obtain ⟨_, h⟩ := need_eq_ok.1 h
          exact ⟨pos, bl, g, d, hpos, of_decide_eq_true hc, of_decide_eq_true hr,
            Bool.eq_false_iff.2 hs, hbl, hg, hd, (Outcome.ok.inj h).symm⟩

theorem keyRow_eq {k : Key} {p : Pwb.PwbPacket} (h : some (packetBoard p) = k.1) :
    keyRow k = pwbRow p := by
  unfold keyRow; rw [← h]; rfl

theorem keyChip_eq {k : Key} {p : Pwb.PwbPacket} (h : Chunk.afterOfNat p.afterId = k.2)
    (hlt : p.afterId < 4) : keyChip k = p.afterId := by
  unfold keyChip; rw [← h]
  match hn : p.afterId, hlt with
  | 0, _ => rfl
  | 1, _ => rfl
  | 2, _ => rfl
  | 3, _ => rfl

theorem afterNum_lt (a : Chunk.AfterId) : afterNum a < 4 := by cases a <;> decide

theorem afterOfNat_afterNum (a : Chunk.AfterId) : Chunk.afterOfNat (afterNum a) = some a := by
  cases a <;> rfl

theorem afterNum_inj (a a' : Chunk.AfterId) (h : afterNum a = afterNum a') : a = a' :=
  Option.some.inj (by rw [← afterOfNat_afterNum a, h, afterOfNat_afterNum])

theorem keyChip_lt (k : Key) : keyChip k < 4 := by
  unfold keyChip
  split
  · exact afterNum_lt _
  · decide

theorem keyRow_lt (k : Key) : keyRow k < padwingBoards.length := by
  unfold keyRow
  cases k.1 with
  | none => decide
  | some b =>
    simp only [Option.bind_some]
    exact findIdx_getD_lt padwingBoards _ (by decide)

theorem keyRow_row (i : Nat) (hi : i < padwingBoards.length) (a : Option Chunk.AfterId) :
    keyRow (some padwingBoards[i], a) = i := by
  rw [keyRow, Option.bind_some, pwbBoardIdx, findIdx?_name C08.board_tables_distinct.2.2.1 hi]
  rfl

theorem groupStep_ok {run : Nat} {g : Group} {pad pad' : Array (Option (List α))}
    (h : groupStep ops run g pad = .ok pad') :
    ∃ p, Pwb.reassemble g.2 = .ok p ∧ some (packetBoard p) = g.1.1
      ∧ Chunk.afterOfNat p.afterId = g.1.2
      ∧ channelLoop ops run (keyRow g.1) (keyChip g.1) p p.channelsSent pad = .ok pad' := by
  unfold groupStep at h
  split at h
  · cases h
  · cases h
  · rename_i p hp
    obtain ⟨h1, h⟩ := ite_err_eq_ok.1 h
    obtain ⟨h2, h⟩ := ite_err_eq_ok.1 h
    exact ⟨p, hp, Decidable.not_not.1 h1, Decidable.not_not.1 h2, h⟩

theorem build_ok {order : GroupOrder} {run : Nat} {banks : List Bank} {ev : Event α}
    (h : buildEventWith ops order run banks = .ok ev) :
    ∃ st pad ts, bankLoop ops run banks St.init = .ok st
      ∧ groupLoop ops run (order.f st.groups) st.pad = .ok pad ∧ st.ts = some ts
      ∧ ev = { wire := st.wire, pad := pad, ts := ts } := by
  unfold buildEventWith at h
  split at h
  · cases h
  · cases h
  · rename_i st hst
    unfold finish at h
    split at h
    · cases h
    · cases h
    · rename_i pad hpad
      split at h
      · cases h
      · rename_i ts hts
        exact ⟨st, pad, ts, hst, hpad, hts, (Outcome.ok.inj h).symm⟩

/-- A successful anode-wire bank records its name and otherwise changes only the wire slots, of
which nothing is said here (`st'.wire` on the right). -/
theorem wireBank_frame {run : Nat} {nm : BankName.Name} {data : List UInt8} {st st' : St α}
    (h : wireBank ops run nm data st = .ok st') :
    st' = { st with wire := st'.wire, wireNames := st.wireNames ++ [(nm.board, nm.channel)] } := by
  obtain ⟨p, _, hpk⟩ := wireBank_ok ops h
  obtain ⟨ch, _, _, _, ⟨_, rfl⟩ | ⟨_, hstore⟩⟩ := wirePacket_ok ops hpk
  · rfl
  · obtain ⟨w, bl, g, d, _, _, _, _, _, _, rfl⟩ := wireStore_ok ops hstore
    split <;> rfl

theorem bankStep_eq {run : Nat} {b : Bank} {nm : BankName.Name} (st : St α)
    (hp : BankName.parseBankName b.1 = .ok nm) :
    bankStep ops run b st = (match nm.kind with
      | .adc32 => wireBank ops run nm b.2 st
      | .padwing => padwingBank nm b.2 st
      | .trg => trgBank b.2 st
      | _ => .ok st) := by
  simp only [bankStep, hp]; rfl

theorem bankLoop_eq (run : Nat) : ∀ (banks : List Bank) (st : St α),
    bankLoop ops run banks st = banks.foldlM (fun st b => bankStep ops run b st) st
  | [], _ => rfl
  | b :: bs, st => by
    rw [bankLoop, List.foldlM_cons]
    cases bankStep ops run b st with
    | ok st' => exact bankLoop_eq run bs st'
    | err e => rfl
    | panic s => rfl

theorem groupLoop_eq (run : Nat) : ∀ (gs : List Group) (pad : Array (Option (List α))),
    groupLoop ops run gs pad = gs.foldlM (fun pad g => groupStep ops run g pad) pad
  | [], _ => rfl
  | g :: gs, pad => by
    rw [groupLoop, List.foldlM_cons]
    cases groupStep ops run g pad with
    | ok pad' => exact groupLoop_eq run gs pad'
    | err e => rfl
    | panic s => rfl

/-- One iteration of `channelLoop`. -/
def chanStep (run board chip : Nat) (p : Pwb.PwbPacket) (pad : Array (Option (List α))) :
    Pwb.ChannelId → Outcome Err (Array (Option (List α)))
  | .pad n =>
    match Pwb.waveformAt p (.pad n) with
    | .panic s => .panic s
    | .err _ => .panic "model:waveform_at-err"
    | .ok none => .panic "event:waveform_at().unwrap()"
    | .ok (some wf) => padStore ops run board chip n wf pad
  | _ => .ok pad

theorem channelLoop_eq (run board chip : Nat) (p : Pwb.PwbPacket) :
    ∀ (cs : List Pwb.ChannelId) (pad : Array (Option (List α))),
    channelLoop ops run board chip p cs pad = cs.foldlM (chanStep ops run board chip p) pad
  | [], _ => rfl
  | .reset _ :: cs, pad => by
    unfold channelLoop; rw [List.foldlM_cons, channelLoop_eq run board chip p cs]; rfl
  | .fpn _ :: cs, pad => by
    unfold channelLoop; rw [List.foldlM_cons, channelLoop_eq run board chip p cs]; rfl
  | .pad n :: cs, pad => by
    unfold channelLoop; rw [List.foldlM_cons, chanStep]
    rcases Pwb.waveformAt p (.pad n) with (_ | wf) | _ | _ <;> try rfl
    simp only []
    cases padStore ops run board chip n wf pad with
    | ok pad' => exact channelLoop_eq run board chip p cs pad'
    | err e => rfl
    | panic s => rfl

end AlphaG.Event
