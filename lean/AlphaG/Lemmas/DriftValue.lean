import AlphaG.Lemmas.DriftLookup
/-
Values of the linear interpolation between bracketing knots (exact arithmetic): range,
knot reproduction, monotonicity and the Lipschitz bound.
-/
set_option linter.unusedSectionVars false

namespace AlphaG.Drift

variable {K : Type} [Field K] [LinearOrder K] [IsStrictOrderedRing K]

/-- value at `t` of the line through `(a, p)` and `(b, q)`, in the code's form -/
def seg (a b p q t : K) : K := p + (t - a) / (b - a) * (q - p)

theorem seg_left (a b p q : K) : seg a b p q a = p := by simp [seg]

theorem seg_right {a b : K} (p q : K) (hab : a < b) : seg a b p q b = q := by
  have : b - a ≠ 0 := ne_of_gt (sub_pos.2 hab)
  simp [seg, div_self this]

theorem seg_diff {a b : K} (p q t t' : K) (hab : a < b) :
    seg a b p q t - seg a b p q t' = (t' - t) / (b - a) * (p - q) := by
  have : b - a ≠ 0 := ne_of_gt (sub_pos.2 hab)
  unfold seg; field_simp; ring

theorem seg_anti {a b p q t t' : K} (hab : a < b) (hqp : q ≤ p) (htt : t ≤ t') :
    seg a b p q t' ≤ seg a b p q t :=
  sub_nonneg.1 (seg_diff p q t t' hab ▸
    mul_nonneg (div_nonneg (sub_nonneg.2 htt) (sub_pos.2 hab).le) (sub_nonneg.2 hqp))

theorem seg_mono {a b p q t t' : K} (hab : a < b) (hpq : p ≤ q) (htt : t ≤ t') :
    seg a b p q t ≤ seg a b p q t' :=
  sub_nonpos.1 (seg_diff p q t t' hab ▸
    mul_nonpos_of_nonneg_of_nonpos (div_nonneg (sub_nonneg.2 htt) (sub_pos.2 hab).le)
      (sub_nonpos.2 hpq))

theorem seg_lip {a b p q t t' M : K} (hab : a < b) (hM : p - q ≤ M * (b - a)) (htt : t ≤ t') :
    seg a b p q t - seg a b p q t' ≤ M * (t' - t) := by
  rw [seg_diff p q t t' hab]
  have hba : 0 < b - a := sub_pos.2 hab
  have h1 : 0 ≤ (t' - t) / (b - a) := div_nonneg (sub_nonneg.2 htt) (le_of_lt hba)
  calc (t' - t) / (b - a) * (p - q) ≤ (t' - t) / (b - a) * (M * (b - a)) :=
        mul_le_mul_of_nonneg_left hM h1
    _ = M * (t' - t) := by field_simp

/-- radius returned for the bracket `l, l + 1` -/
def rOf (tb : List (Knot K)) (l : Nat) (t : K) : K :=
  (interp (fieldOps K) (kn tb l) (kn tb (l + 1)) t).1
/-- Lorentz correction returned for the bracket `l, l + 1` -/
def cOf (tb : List (Knot K)) (l : Nat) (t : K) : K :=
  (interp (fieldOps K) (kn tb l) (kn tb (l + 1)) t).2

theorem rOf_eq (tb : List (Knot K)) (l : Nat) (t : K) :
    rOf tb l t = seg (kn tb l).t (kn tb (l + 1)).t (kn tb l).r (kn tb (l + 1)).r t := rfl
theorem cOf_eq (tb : List (Knot K)) (l : Nat) (t : K) :
    cOf tb l t = seg (kn tb l).t (kn tb (l + 1)).t (kn tb l).c (kn tb (l + 1)).c t := rfl

theorem knot_lip {tb : List (Knot K)} {M : K} {i m : Nat}
    (hM : ∀ j, i ≤ j → j < m → (kn tb j).r - (kn tb (j + 1)).r ≤ M * ((kn tb (j + 1)).t - (kn tb j).t))
    (him : i ≤ m) : (kn tb i).r - (kn tb m).r ≤ M * ((kn tb m).t - (kn tb i).t) := by
  -- the slope bounds say that `r + M·t` does not decrease from knot to knot
  have := rel_of_step (· ≤ ·) (fun j => (kn tb j).r + M * (kn tb j).t) him
    fun j h1 h2 => by linarith [hM j h1 h2]
  linarith

section bracket
variable {tb : List (Knot K)} (ok : SliceOk tb)
include ok

theorem rOf_bounds {t : K} {l : Nat} (hb : Bracket tb t l) :
    (kn tb (l + 1)).r ≤ rOf tb l t ∧ rOf tb l t ≤ (kn tb l).r := by
  have hab := ok.time_lt l hb.1
  have hqp := ok.radius_ge l hb.1
  rw [rOf_eq]
  exact ⟨(seg_right _ _ hab).symm.trans_le (seg_anti hab hqp hb.2.2),
    (seg_anti hab hqp hb.2.1).trans_eq (seg_left _ _ _ _)⟩

theorem cOf_bounds {t : K} {l : Nat} (hb : Bracket tb t l) :
    (kn tb l).c ≤ cOf tb l t ∧ cOf tb l t ≤ (kn tb (l + 1)).c := by
  have hab := ok.time_lt l hb.1
  have hpq := ok.corr_le l hb.1
  rw [cOf_eq]
  exact ⟨(seg_left _ _ _ _).symm.trans_le (seg_mono hab hpq hb.2.1),
    (seg_mono hab hpq hb.2.2).trans_eq (seg_right _ _ hab)⟩

theorem bracket_knot {j l : Nat} (hj : j < tb.length) (hb : Bracket tb (kn tb j).t l) :
    j = l ∨ j = l + 1 := by
  obtain ⟨hl, hlo, hhi⟩ := hb
  by_contra hc
  rcases Nat.lt_or_ge j l with h | h
  · exact (lt_of_lt_of_le (ok.time_strict h (by omega)) hlo).false
  · exact (lt_of_lt_of_le (ok.time_strict (by omega : l + 1 < j) hj) hhi).false

theorem interp_knot {j l : Nat} (hj : j < tb.length) (hb : Bracket tb (kn tb j).t l) :
    (rOf tb l (kn tb j).t, cOf tb l (kn tb j).t) = ((kn tb j).r, (kn tb j).c) := by
  have hab := ok.time_lt l hb.1
  rw [rOf_eq, cOf_eq]
  rcases bracket_knot ok hj hb with h | h
  · subst h; rw [seg_left, seg_left]
  · subst h; rw [seg_right _ _ hab, seg_right _ _ hab]

/-- Brackets of `t ≤ t'` are in order, unless both times sit on one knot; then both brackets
return that knot's radius and correction. -/
theorem bracket_le_or_knot {t t' : K} {l l' : Nat} (hb : Bracket tb t l) (hb' : Bracket tb t' l')
    (htt : t ≤ t') :
    l ≤ l' ∨ t = t' ∧ (rOf tb l t, cOf tb l t) = (rOf tb l' t', cOf tb l' t') := by
  rcases Nat.lt_or_ge l' l with h | h
  · right
    have hl := hb.1
    have hkk : (kn tb (l' + 1)).t ≤ (kn tb l).t := ok.time_mono (by omega) (by omega)
    obtain rfl : t' = (kn tb (l' + 1)).t := le_antisymm hb'.2.2 (hkk.trans (hb.2.1.trans htt))
    obtain rfl : t = (kn tb (l' + 1)).t := le_antisymm htt (hkk.trans hb.2.1)
    exact ⟨rfl, by rw [interp_knot ok hb'.1 hb, interp_knot ok hb'.1 hb']⟩
  · exact Or.inl h

theorem rOf_anti {t t' : K} {l l' : Nat} (hb : Bracket tb t l) (hb' : Bracket tb t' l')
    (htt : t ≤ t') : rOf tb l' t' ≤ rOf tb l t := by
  rcases bracket_le_or_knot ok hb hb' htt with h | ⟨-, e⟩
  · rcases Nat.lt_or_eq_of_le h with h | rfl
    · have hl' := hb'.1
      exact ((rOf_bounds ok hb').2.trans (ok.radius_anti (by omega : l + 1 ≤ l') (by omega))).trans
        (rOf_bounds ok hb).1
    · rw [rOf_eq, rOf_eq]
      exact seg_anti (ok.time_lt l hb.1) (ok.radius_ge l hb.1) htt
  · exact (congrArg Prod.fst e).ge

/-- Two lookups `t ≤ t'` in the same table: the radius decreases by at most `M · (t' - t)` when
`M` bounds the slopes of the knot intervals touching `[t, t']`. -/
theorem rOf_lip {t t' M : K} {l l' : Nat} (hb : Bracket tb t l) (hb' : Bracket tb t' l')
    (htt : t ≤ t')
    (hM : ∀ j, j + 1 < tb.length → (kn tb j).t ≤ t' → t ≤ (kn tb (j + 1)).t →
      (kn tb j).r - (kn tb (j + 1)).r ≤ M * ((kn tb (j + 1)).t - (kn tb j).t)) :
    rOf tb l t - rOf tb l' t' ≤ M * (t' - t) := by
  rcases bracket_le_or_knot ok hb hb' htt with h | ⟨rfl, e⟩
  swap
  · rw [(Prod.mk.inj e).1, sub_self, sub_self, mul_zero]
  have hab := ok.time_lt l hb.1
  have hab' := ok.time_lt l' hb'.1
  obtain ⟨hl, hlo, hhi⟩ := hb
  obtain ⟨hl', hlo', hhi'⟩ := hb'
  rw [rOf_eq, rOf_eq]
  rcases Nat.lt_or_eq_of_le h with h | rfl
  · -- from `t` to knot `l + 1`, on to knot `l'`, from there to `t'`
    have p1 := seg_lip hab (hM l hl (hlo.trans htt) hhi) hhi
    have p2 := knot_lip (M := M) (i := l + 1) (m := l')
      (fun j hj1 hj2 => hM j (by omega)
        ((ok.time_mono (by omega : j ≤ l') (by omega)).trans hlo')
        (hhi.trans (ok.time_mono (by omega : l + 1 ≤ j + 1) (by omega))))
      (by omega)
    have p3 := seg_lip hab' (hM l' hl' hlo' (htt.trans hhi')) hlo'
    rw [seg_right _ _ hab] at p1
    rw [seg_left] at p3
    linarith
  · exact seg_lip hab (hM l hl hlo' hhi) htt

end bracket

/-- A common slope bound below `B / D` exists for finitely many intervals that each satisfy
`a j * D < B * b j`. -/
theorem exists_slope_bound {D B : K} (hB : 0 < B) (N : Nat) (a b : Nat → K) (P : Nat → Prop)
    (h : ∀ j, j < N → P j → 0 < b j ∧ a j * D < B * b j) :
    ∃ M, 0 ≤ M ∧ M * D < B ∧ ∀ j, j < N → P j → a j ≤ M * b j := by
  induction N with
  | zero => exact ⟨0, le_refl _, by simpa using hB, fun j hj => absurd hj (Nat.not_lt_zero _)⟩
  | succ N ih =>
    obtain ⟨M, hM0, hMD, hMa⟩ := ih fun j hj hp => h j (by omega) hp
    by_cases hP : P N
    · -- the larger of `M` and the slope of interval `N`
      obtain ⟨hb, hab⟩ := h N (by omega) hP
      refine ⟨max M (a N / b N), le_max_of_le_left hM0, ?_, fun j hj hp => ?_⟩
      · rcases max_choice M (a N / b N) with e | e
        · rwa [e]
        · rwa [e, div_mul_eq_mul_div, div_lt_iff₀ hb]
      · rcases Nat.lt_succ_iff_lt_or_eq.1 hj with hjn | rfl
        · exact (hMa j hjn hp).trans
            (mul_le_mul_of_nonneg_right (le_max_left _ _) (h j hj hp).1.le)
        · exact (div_le_iff₀ hb).1 (le_max_right _ _)
    · exact ⟨M, hM0, hMD, fun j hj hp => hMa j
        ((Nat.lt_succ_iff_lt_or_eq.1 hj).resolve_right fun e => hP (e ▸ hp)) hp⟩

end AlphaG.Drift
