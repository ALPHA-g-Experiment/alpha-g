import AlphaG.Model.Maps
/-
`match run_number` arms (C08): which arm a run number selects depends only on which of the
arms' cut points (`N` of `N..`, 2^32-1 of `u32::MAX`) lie at or below it. So a statement about
*every* u32 run number reduces to a check at the finitely many cut points, which the kernel
decides on the generated arms; no threshold is written down by hand. Core Lean only.
-/
namespace AlphaG.Maps
open AlphaG.Generated

def cutsOf : Arms → List Nat
  | [] => []
  | (.max, _) :: r => 4294967295 :: cutsOf r
  | (.ge n, _) :: r => n :: cutsOf r
  | (.wild, _) :: r => cutsOf r

/-- Largest cut point ≤ `r` (0 if none). -/
def rep : List Nat → Nat → Nat
  | [], _ => 0
  | c :: cs, r => if c ≤ r then max c (rep cs r) else rep cs r

theorem rep_le (cs : List Nat) (r : Nat) : rep cs r ≤ r := by
  induction cs with
  | nil => exact Nat.zero_le r
  | cons c cs ih => simp only [rep]; split <;> omega

theorem le_rep (cs : List Nat) (r c : Nat) (hc : c ∈ cs) (hcr : c ≤ r) : c ≤ rep cs r := by
  induction cs with
  | nil => cases hc
  | cons d cs ih =>
    simp only [rep]
    rcases List.mem_cons.1 hc with rfl | hc
    · rw [if_pos hcr]; exact Nat.le_max_left _ _
    · have := ih hc
      split <;> omega

theorem rep_mem (cs : List Nat) (r : Nat) : rep cs r ∈ 0 :: cs := by
  induction cs with
  | nil => exact List.mem_cons_self
  | cons c cs ih =>
    have hm : rep cs r ∈ 0 :: c :: cs := by
      rcases List.mem_cons.1 ih with h | h <;> simp [h]
    simp only [rep]
    split
    · rcases Nat.le_total c (rep cs r) with h | h
      · rwa [Nat.max_eq_right h]
      · rw [Nat.max_eq_left h]; simp
    · exact hm

/-- Two run numbers on the same side of every cut point. -/
def SameSide (cuts : List Nat) (r r' : Nat) : Prop := ∀ c, c ∈ cuts → (c ≤ r ↔ c ≤ r')

theorem sameSide_rep (cs : List Nat) (r : Nat) : SameSide cs r (rep cs r) := by
  intro c hc
  constructor
  · exact le_rep cs r c hc
  · intro h; exact Nat.le_trans h (rep_le cs r)

theorem dispatch_congr_pat (arms : Arms) (r r' : Nat)
    (h : ∀ a ∈ arms, patMatches a.1 r = patMatches a.1 r') :
    dispatch arms r = dispatch arms r' ∧ dispatchIdx arms r = dispatchIdx arms r' := by
  induction arms with
  | nil => exact ⟨rfl, rfl⟩
  | cons a rest ih =>
    have ih' := ih fun b hb => h b (List.mem_cons_of_mem _ hb)
    simp only [dispatch, dispatchIdx, h a List.mem_cons_self, ih'.1, ih'.2, and_self]

theorem mem_cutsOf (arms : Arms) (p : RunPat) (x : ArmRhs) (h : (p, x) ∈ arms) :
    match p with
    | .max => 4294967295 ∈ cutsOf arms
    | .ge n => n ∈ cutsOf arms
    | .wild => True := by
  induction arms with
  | nil => cases h
  | cons a rest ih =>
    obtain ⟨q, y⟩ := a
    rcases List.mem_cons.1 h with e | h'
    · cases e; cases p <;> simp [cutsOf]
    · have := ih h'
      cases p <;> cases q <;> simp_all [cutsOf]

theorem dispatch_sameSide (arms : Arms) (r r' : Nat) (hr : r < 2 ^ 32) (hr' : r' < 2 ^ 32)
    (h : SameSide (cutsOf arms) r r') :
    dispatch arms r = dispatch arms r' ∧ dispatchIdx arms r = dispatchIdx arms r' := by
  refine dispatch_congr_pat arms r r' fun a ha => ?_
  obtain ⟨p, x⟩ := a
  have hm := mem_cutsOf arms p x ha
  cases p with
  | max =>
    have := h _ hm
    rw [patMatches, patMatches, Bool.eq_iff_iff, beq_iff_eq, beq_iff_eq]; omega
  | ge n => simp only [patMatches, h n hm]
  | wild => rfl

theorem dispatch_rep (arms : Arms) (r : Nat) (hr : r < 2 ^ 32) :
    dispatch arms r = dispatch arms (rep (cutsOf arms) r) :=
  (dispatch_sameSide arms r _ hr (Nat.lt_of_le_of_lt (rep_le _ _) hr) (sameSide_rep _ _)).1

theorem dispatchIdx_rep (arms : Arms) (r : Nat) (hr : r < 2 ^ 32) :
    dispatchIdx arms r = dispatchIdx arms (rep (cutsOf arms) r) :=
  (dispatch_sameSide arms r _ hr (Nat.lt_of_le_of_lt (rep_le _ _) hr) (sameSide_rep _ _)).2

theorem dispatch_mem (arms : Arms) (r : Nat) (x : ArmRhs) (h : dispatch arms r = some x) :
    x ∈ arms.map (fun a => a.2) := by
  induction arms with
  | nil => simp [dispatch] at h
  | cons a arms ih =>
    obtain ⟨p, y⟩ := a
    simp only [dispatch] at h
    split at h
    · simp only [Option.some.injEq] at h; subst h; simp
    · simp only [List.map_cons, List.mem_cons]; exact Or.inr (ih h)

theorem dispatch_isSome (arms : Arms) (hw : arms.any (fun a => a.1 == .wild) = true) (run : Nat) :
    ∃ x, dispatch arms run = some x := by
  induction arms with
  | nil => simp at hw
  | cons b rest ih =>
    obtain ⟨p, y⟩ := b
    simp only [dispatch]
    split
    · exact ⟨y, rfl⟩
    · rename_i hp
      simp only [List.any_cons, Bool.or_eq_true, beq_iff_eq] at hw
      rcases hw with e | hw
      · cases (e : p = .wild); simp [patMatches] at hp
      · exact ih hw

def ArmRhs.isErr : ArmRhs → Bool
  | .err _ => true
  | _ => false

def isErrAt (arms : Arms) (r : Nat) : Bool :=
  match dispatch arms r with
  | some x => ArmRhs.isErr x
  | none => false

/-- Does the run select a table or a literal value (= "a map exists")? -/
def hasMapAt (arms : Arms) (r : Nat) : Bool :=
  match dispatch arms r with
  | some (.table _) => true
  | some (.value _) => true
  | _ => false

/-- The first run number with a map: the smallest cut point (or 0) at which the arms select a
map; 2^32 if there is none. Computed from the generated arms. -/
def firstMapRun (arms : Arms) : Nat :=
  ((0 :: cutsOf arms).filter (hasMapAt arms)).foldl min (2 ^ 32)

/-- Checked by the kernel on the generated arms: below `lo` every cut point selects an error,
from `lo` on every cut point selects a map, and `lo` is itself a cut point (or 0). -/
def armsSplitAt (arms : Arms) (lo : Nat) : Bool :=
  (0 :: cutsOf arms).all (fun c => if c < lo then isErrAt arms c else hasMapAt arms c)
    && (0 :: cutsOf arms).contains lo

theorem before_of_split (arms : Arms) (lo : Nat) (h : armsSplitAt arms lo = true) (r : Nat)
    (hr : r < lo) (hr32 : r < 2 ^ 32) : isErrAt arms r = true := by
  simp only [armsSplitAt, Bool.and_eq_true, List.all_eq_true] at h
  have hm := rep_mem (cutsOf arms) r
  have hle := rep_le (cutsOf arms) r
  have := h.1 _ hm
  rw [if_pos (by omega)] at this
  unfold isErrAt at this ⊢
  rw [dispatch_rep arms r hr32]
  exact this

theorem from_of_split (arms : Arms) (lo : Nat) (h : armsSplitAt arms lo = true) (r : Nat)
    (hr : lo ≤ r) (hr32 : r < 2 ^ 32) : hasMapAt arms r = true := by
  simp only [armsSplitAt, Bool.and_eq_true, List.all_eq_true] at h
  have hm := rep_mem (cutsOf arms) r
  have hlo : lo ≤ rep (cutsOf arms) r := by
    have := h.2
    simp only [List.contains_iff_mem] at this
    rcases List.mem_cons.1 this with h0 | h0
    · omega
    · exact le_rep _ _ _ h0 hr
  have := h.1 _ hm
  rw [if_neg (by omega)] at this
  unfold hasMapAt at this ⊢
  rw [dispatch_rep arms r hr32]
  exact this

/-- Every arm is selected by some run number (no arm is shadowed by an earlier one): checked at
the cut points. -/
def noShadowedArm (arms : Arms) : Bool :=
  (List.range arms.length).all fun i =>
    (0 :: cutsOf arms).any fun c => dispatchIdx arms c == some i

/-- All `.table i` right-hand sides point into a table list of length `n`. -/
def tablesBelow (arms : Arms) (n : Nat) : Bool :=
  arms.all fun a => match a.2 with
    | .table i => decide (i < n)
    | _ => true

theorem table_lt_of_dispatch (arms : Arms) (n r i : Nat) (h : tablesBelow arms n = true)
    (hd : dispatch arms r = some (.table i)) : i < n := by
  obtain ⟨a, ha, e⟩ := List.mem_map.1 (dispatch_mem arms r _ hd)
  simp only [tablesBelow, List.all_eq_true] at h
  simpa [e] using h a ha

end AlphaG.Maps
