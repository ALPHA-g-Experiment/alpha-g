/-
Finite bijections, checked in linear time by the kernel (C08).

`permCheck f n` walks `0 … n-1` once, keeping the set of values seen so far as the bits of one
natural number (`Nat.lor`, `Nat.pow`, `Nat.testBit` on literals are GMP-accelerated in the
kernel): it fails as soon as a value repeats and demands that exactly the values `< n` were
seen at the end. `permCheck_sound` turns a successful run into the three mathematical facts
(range, injective, surjective). A quadratic `decide` of the same facts for the 288 pads of a
PadWing board takes a minute; this takes well under a second. Core Lean only.
-/
namespace AlphaG

/-- `f` maps `{0,…,n-1}` bijectively onto itself. -/
structure BijBelow (f : Nat → Nat) (n : Nat) : Prop where
  range : ∀ k, k < n → f k < n
  inj : ∀ k k', k < n → k' < n → f k = f k' → k = k'
  surj : ∀ v, v < n → ∃ k, k < n ∧ f k = v

def permStep (f : Nat → Nat) (acc : Option Nat) (k : Nat) : Option Nat :=
  match acc with
  | none => none
  | some m => if m.testBit (f k) then none else some (m ||| 2 ^ f k)

def permCheck (f : Nat → Nat) (n : Nat) : Bool :=
  (List.range n).foldl (permStep f) (some 0) == some (2 ^ n - 1)

theorem foldl_permStep_none (f : Nat → Nat) (l : List Nat) :
    List.foldl (permStep f) none l = none := by
  induction l with
  | nil => rfl
  | cons k l ih => exact ih

theorem foldl_permStep (f : Nat → Nat) (l : List Nat) (m m' : Nat)
    (h : l.foldl (permStep f) (some m) = some m') :
    (∀ v, m'.testBit v = true ↔ m.testBit v = true ∨ ∃ k ∈ l, f k = v)
      ∧ (l.map f).Nodup ∧ ∀ k ∈ l, ¬ m.testBit (f k) = true := by
  induction l generalizing m with
  | nil => cases h; simp
  | cons k l ih =>
    rw [List.foldl_cons, permStep] at h
    split at h
    · rw [foldl_permStep_none] at h; cases h
    · rename_i hb
      obtain ⟨h1, h2, h3⟩ := ih _ h
      have hor : ∀ v, (m ||| 2 ^ f k).testBit v = true ↔ m.testBit v = true ∨ f k = v := fun v => by
        rw [Nat.testBit_or, Nat.testBit_two_pow, Bool.or_eq_true, decide_eq_true_eq]
      simp only [hor, not_or] at h1 h3
      refine ⟨fun v => by
        simp only [h1, List.mem_cons, or_and_right, exists_or, exists_eq_left, or_assoc], ?_, ?_⟩
      · rw [List.map_cons, List.nodup_cons, List.mem_map]
        exact ⟨fun ⟨k', hk', e⟩ => (h3 k' hk').2 e.symm, h2⟩
      · exact List.forall_mem_cons.2 ⟨hb, fun k' hk' => (h3 k' hk').1⟩

theorem permCheck_sound {f : Nat → Nat} {n : Nat} (h : permCheck f n = true) : BijBelow f n := by
  obtain ⟨h1, h2, -⟩ := foldl_permStep f _ _ _ (beq_iff_eq.1 h)
  have key : ∀ v, v < n ↔ ∃ k, k < n ∧ f k = v := by
    intro v
    simpa [Nat.testBit_two_pow_sub_one, List.mem_range] using h1 v
  refine ⟨fun k hk => (key (f k)).2 ⟨k, hk, rfl⟩, fun k k' hk hk' e => ?_, fun v hv => (key v).1 hv⟩
  have hl : ((List.range n).map f).length = n := by simp
  exact (List.getElem_inj (h₀ := hl.symm ▸ hk) (h₁ := hl.symm ▸ hk') h2).1 (by simpa using e)

end AlphaG
