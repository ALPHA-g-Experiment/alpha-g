import AlphaG.Lemmas.Drift
import AlphaG.Lemmas.DriftCheck
import Mathlib.Algebra.Order.Ring.Cast
/-
Transport of the integer checks of `Lemmas/DriftCheck.lean` (evaluated by the kernel on the
generated bit patterns) to the exact values of the table entries in a linear ordered field.
-/
set_option linter.unusedSectionVars false

namespace AlphaG.Drift

variable {K : Type} [Field K] [LinearOrder K] [IsStrictOrderedRing K]

/-- exact value of a finite `f64` bit pattern: `dy b / 2^1074`. `checkSlice` and `checkZ` demand
finiteness of every entry so that this is the value of the double (exponent field 2047 has none);
`SliceOk` and `TablesOk` do not speak of it, so the transport below drops that conjunct. -/
def val (K : Type) [Field K] [LinearOrder K] [IsStrictOrderedRing K] (b : Nat) : K :=
  ((dy b : Int) : K) / 2 ^ 1074

theorem val_lt {a b : Nat} : val K a < val K b ↔ dy a < dy b := by
  unfold val
  rw [div_lt_div_iff_of_pos_right (by positivity)]
  exact Int.cast_lt

theorem val_le {a b : Nat} : val K a ≤ val K b ↔ dy a ≤ dy b := by
  rw [← not_lt, val_lt, not_lt]

theorem val_eq_zero {b : Nat} (h : dy b = 0) : val K b = 0 := by
  simp [val, h]

theorem val_pos {b : Nat} (h : 0 < dy b) : 0 < val K b := by
  unfold val
  exact div_pos (Int.cast_pos.2 h) (by positivity)

/-- the generated tables with their exact values -/
def exactTables (K : Type) [Field K] [LinearOrder K] [IsStrictOrderedRing K]
    (bits : List (List (Nat × Nat × Nat) × Nat)) : List (Slice K) :=
  tablesOfBits (val K) bits

/-- knot `i` of a slice of bit patterns -/
def bk (s : List (Nat × Nat × Nat)) (i : Nat) : Nat × Nat × Nat := s.getD i (0, 0, 0)
/-- slice `i` of the bit patterns -/
def bs (bits : List (List (Nat × Nat × Nat) × Nat)) (i : Nat) : List (Nat × Nat × Nat) × Nat :=
  bits.getD i ([], 0)

theorem kn_map (s : List (Nat × Nat × Nat)) (f : Nat × Nat × Nat → Knot K) {i : Nat}
    (h : i < s.length) : kn (s.map f) i = f (bk s i) := by
  simp [kn, bk, List.getD_eq_getElem?_getD, List.getElem?_eq_getElem h]

theorem sl_exact (bits : List (List (Nat × Nat × Nat) × Nat)) {i : Nat} (h : i < bits.length) :
    sl (exactTables K bits) i =
      { table := (bs bits i).1.map fun k => { t := val K k.1, r := val K k.2.1, c := val K k.2.2 },
        zUpper := val K (bs bits i).2 } := by
  simp [sl, bs, exactTables, tablesOfBits, List.getD_eq_getElem?_getD, List.getElem?_eq_getElem h]

theorem exactTables_length (bits : List (List (Nat × Nat × Nat) × Nat)) :
    (exactTables K bits).length = bits.length := by
  simp [exactTables, tablesOfBits]

theorem bs_eq_getElem {bits : List (List (Nat × Nat × Nat) × Nat)} {i : Nat} (h : i < bits.length) :
    bs bits i = bits[i] := by
  simp only [bs, List.getD_eq_getElem?_getD, List.getElem?_eq_getElem h, Option.getD_some]

theorem bs_mem {bits : List (List (Nat × Nat × Nat) × Nat)} {i : Nat} (h : i < bits.length) :
    bs bits i ∈ bits :=
  bs_eq_getElem h ▸ List.getElem_mem h

theorem checkAdj_val : ∀ (s : List (Nat × Nat × Nat)), checkAdj s = true →
    let tb := s.map fun k => ({ t := val K k.1, r := val K k.2.1, c := val K k.2.2 } : Knot K)
    ∀ i, i + 1 < tb.length → (kn tb i).t < (kn tb (i + 1)).t
      ∧ (kn tb (i + 1)).r ≤ (kn tb i).r ∧ (kn tb i).c ≤ (kn tb (i + 1)).c
  | [], _, i, hi => by simp at hi
  | [_], _, i, hi => by simp at hi
  | a :: b :: rest, h, i, hi => by
    simp only [checkAdj, Bool.and_eq_true, decide_eq_true_eq] at h
    obtain ⟨⟨⟨h1, h2⟩, h3⟩, h4⟩ := h
    cases i with
    | zero => exact ⟨val_lt.2 h1, val_le.2 h2, val_le.2 h3⟩
    | succ i => exact checkAdj_val (b :: rest) h4 i (by simpa using hi)

theorem checkZAdj_val : ∀ (bits : List (List (Nat × Nat × Nat) × Nat)),
    checkZAdj (bits.map (·.2)) = true → ∀ i, i + 1 < (exactTables K bits).length →
      zb (exactTables K bits) i < zb (exactTables K bits) (i + 1)
  | [], _, i, hi => by simp [exactTables_length] at hi
  | [_], _, i, hi => by simp [exactTables_length] at hi
  | a :: b :: rest, h, i, hi => by
    simp only [List.map_cons, checkZAdj, Bool.and_eq_true, decide_eq_true_eq] at h
    cases i with
    | zero => exact val_lt.2 h.1
    | succ i => exact checkZAdj_val (b :: rest) h.2 i (by simpa [exactTables_length] using hi)

theorem checkStep_spec : ∀ (s : List (Nat × Nat × Nat)) (j0 : Nat) (exc : List Nat),
    checkStep s j0 exc = true → ∀ i, i + 1 < s.length → j0 + i ∉ exc →
    (dy (bk s i).2.1 - dy (bk s (i + 1)).2.1) * 16000 < (dy (bk s (i + 1)).1 - dy (bk s i).1) * 1000000000
      ∧ (dy (bk s (i + 1)).2.1 - dy (bk s i).2.1) * 16000
          < (dy (bk s (i + 1)).1 - dy (bk s i).1) * 1000000000
  | [], _, _, _, i, hi, _ => by simp at hi
  | [_], _, _, _, i, hi, _ => by simp at hi
  | a :: b :: rest, j0, exc, h, i, hi, hne => by
    simp only [checkStep, Bool.and_eq_true, Bool.or_eq_true, decide_eq_true_eq,
      List.contains_iff_mem] at h
    cases i with
    | zero => exact h.1.resolve_left hne
    | succ i =>
      exact checkStep_spec (b :: rest) (j0 + 1) exc h.2 i (by simpa using hi)
        (by rwa [show j0 + 1 + i = j0 + (i + 1) by omega])

theorem mem_exceptionsOf {l : List (Nat × Nat)} {i j : Nat} : j ∈ exceptionsOf l i ↔ (i, j) ∈ l := by
  simp only [exceptionsOf, List.mem_map, List.mem_filter, beq_iff_eq]
  constructor
  · rintro ⟨⟨a, b⟩, ⟨hm, rfl⟩, rfl⟩; exact hm
  · intro h; exact ⟨(i, j), ⟨h, rfl⟩, rfl⟩

/-- `checkSlice` on the bit patterns gives `SliceOk` on the exact values. -/
theorem sliceOk_of_check {s : List (Nat × Nat × Nat)} (h : checkSlice s = true) :
    SliceOk (s.map fun k => ({ t := val K k.1, r := val K k.2.1, c := val K k.2.2 } : Knot K)) := by
  simp only [checkSlice, Bool.and_eq_true, decide_eq_true_eq] at h
  obtain ⟨⟨⟨h2, -⟩, h0⟩, hadj⟩ := h
  have hs := checkAdj_val (K := K) s hadj
  refine ⟨by simpa using h2, fun i hi => (hs i hi).1, fun i hi => (hs i hi).2.1,
    fun i hi => (hs i hi).2.2, ?_⟩
  cases s with
  | nil => simp at h2
  | cons a l =>
    simp only [firstCorrZero, decide_eq_true_eq] at h0
    exact val_eq_zero h0

/-- The kernel-checked obligations on the bit patterns give `TablesOk` on the exact values. -/
theorem tablesOk_of_check {bits : List (List (Nat × Nat × Nat) × Nat)}
    (hs : ∀ s ∈ bits, checkSlice s.1 = true) (hz : checkZ (bits.map (·.2)) = true) :
    TablesOk (exactTables K bits) := by
  simp only [checkZ, Bool.and_eq_true, decide_eq_true_eq, List.all_eq_true, List.length_map] at hz
  obtain ⟨⟨⟨h1, -⟩, hpos⟩, hadj⟩ := hz
  refine ⟨by rw [exactTables_length]; exact h1, ?_, ?_, checkZAdj_val bits hadj⟩
  · intro i hi
    rw [exactTables_length] at hi
    rw [sl_exact bits hi]
    exact sliceOk_of_check (hs _ (bs_mem hi))
  · cases bits with
    | nil => simp at h1
    | cons a l => exact val_pos (by simpa using hpos a.2 (by simp))

/-- the two inequalities of `checkStep` (on the scaled integers) for the values `x / S` -/
theorem step_scaled {A B C E S : K} (hS : 0 < S)
    (h1 : (A - B) * 16000 < (C - E) * 1000000000) (h2 : (B - A) * 16000 < (C - E) * 1000000000) :
    |A / S - B / S| * (8 / 1000000000) < 1 / 2000 * (C / S - E / S) := by
  -- both sides over `S`, which cancels; then `|A - B| < d` as the two linear inequalities
  rw [← sub_div, ← sub_div, abs_div, abs_of_pos hS, div_mul_eq_mul_div,
    ← mul_div_assoc (1 / 2000 : K), div_lt_div_iff_of_pos_right hS, ← lt_div_iff₀ (by norm_num),
    abs_lt]
  exact ⟨by linarith, by linarith⟩

/-- The step check on the bit patterns: every knot interval of slice `i` not listed in `exc`
has `|Δr| · 8 ns < 0.5 mm · Δt` on the exact values. -/
theorem step_of_check {s : List (Nat × Nat × Nat)} {exc : List Nat}
    (h : checkStep s 0 exc = true) (j : Nat) (hj : j + 1 < s.length) (hne : j ∉ exc) :
    |val K (bk s j).2.1 - val K (bk s (j + 1)).2.1| * (8 / 1000000000)
      < 1 / 2000 * (val K (bk s (j + 1)).1 - val K (bk s j).1) := by
  obtain ⟨h1, h2⟩ := checkStep_spec s 0 exc h j hj (by simpa using hne)
  have c1 := (Int.cast_lt (R := K)).2 h1
  have c2 := (Int.cast_lt (R := K)).2 h2
  push_cast at c1 c2
  exact step_scaled (by positivity) c1 c2

end AlphaG.Drift
