import AlphaG.Model.PwbChunks
import AlphaG.Lemmas.Bytes
/-
Lemmas for PWB packet reassembly (C04): the mismatch scans on valid chunks, dense chunk-id
lists, sorted permutations. Core Lean only.
-/
namespace AlphaG.Pwb

theorem noPanic_ite_panic {ε α : Type} {c : Prop} [Decidable c] {s : String}
    {rest : Outcome ε α} (hc : ¬c) (h : NoPanic rest) :
    NoPanic (if c then Outcome.panic s else rest) := by
  simp only [hc, if_false]; exact h

theorem boardOfDevice_eq_iff {d d' : Nat} (h : (boardOfDevice d).isSome = true) :
    boardOfDevice d = boardOfDevice d' ↔ d = d' := by
  constructor
  · intro e
    obtain ⟨t, ht⟩ := Option.isSome_iff_exists.1 h
    have h1 := (find?_key_eq_some ht).1
    have h2 := (find?_key_eq_some (e ▸ ht)).1
    omega
  · rintro rfl; rfl

theorem afterIdOf_eq_iff {a a' : Nat} (h : a ≤ 3) (h' : a' ≤ 3) :
    afterIdOf a = afterIdOf a' ↔ a = a' := by
  unfold afterIdOf; simp [h, h']

/-- One step of a mismatch scan when both conversions succeed: no panic, and the comparison of the
converted values is the comparison `P` of the raw ones. -/
theorem scan_step {β : Type} [DecidableEq β] {x y : Option β} {P : Prop} [Decidable P]
    (hx : x.isSome = true) (hy : y.isSome = true) (hP : x = y ↔ P) (rest : Scan) :
    (if x.isNone = true ∨ y.isNone = true then Scan.panic
      else if x ≠ y then Scan.mismatch else rest) = if P then rest else Scan.mismatch := by
  obtain ⟨a, rfl⟩ := Option.isSome_iff_exists.1 hx
  obtain ⟨c, rfl⟩ := Option.isSome_iff_exists.1 hy
  simp only [Option.isNone_some, Bool.false_eq_true, or_self, if_false, ne_eq, hP, ite_not]

theorem boardScan_valid (d0 : Nat) (h0 : (boardOfDevice d0).isSome = true) :
    ∀ cs : List ChunkV, (∀ c ∈ cs, (boardOfDevice c.deviceId).isSome = true) →
      boardScan d0 cs = if ∀ c ∈ cs, c.deviceId = d0 then Scan.clean else Scan.mismatch
  | [], _ => by simp [boardScan]
  | c :: cs, hv => by
    have hc := hv c List.mem_cons_self
    rw [boardScan, scan_step hc h0 (boardOfDevice_eq_iff hc),
      boardScan_valid d0 h0 cs (fun x hx => hv x (List.mem_cons_of_mem _ hx))]
    by_cases he : c.deviceId = d0 <;> simp [he]

theorem chipScan_valid (c0 : Nat) (h0 : c0 ≤ 3) :
    ∀ cs : List ChunkV, (∀ c ∈ cs, c.chip ≤ 3) →
      chipScan c0 cs = if ∀ c ∈ cs, c.chip = c0 then Scan.clean else Scan.mismatch
  | [], _ => by simp [chipScan]
  | c :: cs, hv => by
    have hc := hv c List.mem_cons_self
    rw [chipScan, scan_step (by simp [afterIdOf, hc]) (by simp [afterIdOf, h0])
      (afterIdOf_eq_iff hc h0),
      chipScan_valid c0 h0 cs (fun x hx => hv x (List.mem_cons_of_mem _ hx))]
    by_cases he : c.chip = c0 <;> simp [he]

/-- All chunks agree on `f` (board or chip): the order-free form of "no mismatch". -/
def Homog (f : ChunkV → Nat) (cs : List ChunkV) : Prop := ∀ c ∈ cs, ∀ d ∈ cs, f c = f d

instance (f : ChunkV → Nat) (cs : List ChunkV) : Decidable (Homog f cs) := by
  unfold Homog; infer_instance

theorem Homog.perm {f : ChunkV → Nat} {l₁ l₂ : List ChunkV} (h : l₁.Perm l₂) :
    Homog f l₁ ↔ Homog f l₂ := by
  unfold Homog
  constructor
  · intro H c hc d hd; exact H c (h.mem_iff.2 hc) d (h.mem_iff.2 hd)
  · intro H c hc d hd; exact H c (h.mem_iff.1 hc) d (h.mem_iff.1 hd)

theorem homog_cons_iff (f : ChunkV → Nat) (a : ChunkV) (t : List ChunkV) :
    (∀ c ∈ a :: t, f c = f a) ↔ Homog f (a :: t) :=
  ⟨fun H c hc d hd => (H c hc).trans (H d hd).symm, fun H c hc => H c hc a List.mem_cons_self⟩

theorem all_dev0_iff (cs : List ChunkV) (hne : cs ≠ []) :
    (∀ c ∈ cs, c.deviceId = dev0 cs) ↔ Homog (·.deviceId) cs := by
  obtain ⟨a, t, rfl⟩ := List.exists_cons_of_ne_nil hne
  exact homog_cons_iff (·.deviceId) a t

theorem all_chip0_iff (cs : List ChunkV) (hne : cs ≠ []) :
    (∀ c ∈ cs, c.chip = chip0 cs) ↔ Homog (·.chip) cs := by
  obtain ⟨a, t, rfl⟩ := List.exists_cons_of_ne_nil hne
  exact homog_cons_iff (·.chip) a t

theorem Homog.of_const {f : ChunkV → Nat} {cs : List ChunkV} {v : Nat} (h : ∀ c ∈ cs, f c = v) :
    Homog f cs := fun a ha b hb => (h a ha).trans (h b hb).symm

/-- On valid chunks the two scans cannot panic and only depend on whether all chunks agree. -/
theorem reassembleWith_valid (cs s : List ChunkV) (hv : ∀ c ∈ cs, c.Valid) (hne : cs ≠ []) :
    reassembleWith cs s =
      if ¬Homog (·.deviceId) cs then .err .deviceIdMismatch
      else if ¬Homog (·.chip) cs then .err .channelIdMismatch
      else reassembleSorted s := by
  obtain ⟨a, t, rfl⟩ := List.exists_cons_of_ne_nil hne
  have hb := boardScan_valid a.deviceId (hv a List.mem_cons_self).1 (a :: t)
    (fun c hc => (hv c hc).1)
  have hc := chipScan_valid a.chip (hv a List.mem_cons_self).2.1 (a :: t)
    (fun c hc => (hv c hc).2.1)
  simp only [homog_cons_iff (·.deviceId) a t] at hb
  simp only [homog_cons_iff (·.chip) a t] at hc
  simp only [reassembleWith, dev0, chip0, hb, hc, List.isEmpty_cons, Bool.false_eq_true, if_false]
  by_cases h1 : Homog (·.deviceId) (a :: t) <;> by_cases h2 : Homog (·.chip) (a :: t) <;>
    simp [h1, h2]

theorem idMismatchPos_congr : ∀ (s₁ s₂ : List ChunkV) (i : Nat),
    s₁.map (·.chunkId) = s₂.map (·.chunkId) → idMismatchPos s₁ i = idMismatchPos s₂ i
  | [], [], _, _ => rfl
  | [], _ :: _, _, h => by simp at h
  | _ :: _, [], _, h => by simp at h
  | a :: s₁, b :: s₂, i, h => by
    simp only [List.map_cons, List.cons.injEq] at h
    simp only [idMismatchPos, h.1, idMismatchPos_congr s₁ s₂ (i + 1) h.2]

theorem idMismatchPos_none_iff : ∀ (s : List ChunkV) (i : Nat),
    idMismatchPos s i = none ↔ s.map (·.chunkId) = List.range' i s.length
  | [], i => by simp [idMismatchPos]
  | c :: s, i => by
    simp only [idMismatchPos, List.map_cons, List.length_cons, List.range'_succ, List.cons.injEq]
    by_cases h : c.chunkId = i
    · simp [h, idMismatchPos_none_iff s (i + 1)]
    · simp [h]

theorem idMismatchPos_lt : ∀ (s : List ChunkV) (i p : Nat),
    idMismatchPos s i = some p → i ≤ p ∧ p < i + s.length
  | [], _, _, h => by simp [idMismatchPos] at h
  | c :: s, i, p, h => by
    simp only [idMismatchPos] at h
    by_cases hc : c.chunkId = i
    · simp only [hc, ne_eq, not_true_eq_false, if_false] at h
      have := idMismatchPos_lt s (i + 1) p h
      simp only [List.length_cons]; omega
    · simp only [ne_eq, hc, not_false_eq_true, if_true, Option.some.injEq] at h
      simp only [List.length_cons]; omega

theorem dense_getElem_id (s : List ChunkV) (h : s.map (·.chunkId) = List.range' 0 s.length)
    (i : Nat) (hi : i < s.length) : s[i].chunkId = i := by
  have := List.getElem_of_eq h (i := i) (by simpa using hi)
  rwa [List.getElem_map, List.getElem_range', Nat.zero_add, Nat.one_mul] at this

theorem dense_index (s : List ChunkV) (h : s.map (·.chunkId) = List.range' 0 s.length)
    (c : ChunkV) (hc : c ∈ s) : ∃ hi : c.chunkId < s.length, s[c.chunkId] = c := by
  obtain ⟨i, hi, rfl⟩ := List.mem_iff_getElem.1 hc
  have := dense_getElem_id s h i hi
  exact ⟨by rw [this]; exact hi, by simp only [this]⟩

/-- `chunks[0].payload().len() * chunks.len()` fits in `usize`: at most 65536 gap-free ids, at most
65535 payload bytes each. -/
theorem len0_mul_length_lt (s : List ChunkV) (hv : ∀ c ∈ s, c.Valid)
    (hids : s.map (·.chunkId) = List.range' 0 s.length) : len0 s * s.length < 2 ^ 64 := by
  cases s with
  | nil => decide
  | cons a t =>
    have hi : (a :: t).length - 1 < (a :: t).length := Nat.sub_one_lt (by simp)
    have := (hv _ (List.getElem_mem hi)).2.2.2.1
    rw [dense_getElem_id _ hids _ hi] at this
    calc len0 (a :: t) * (a :: t).length ≤ 65535 * 65536 :=
          Nat.mul_le_mul (hv a List.mem_cons_self).2.2.2.2 (by omega)
      _ < 2 ^ 64 := by decide

end AlphaG.Pwb
