import AlphaG.Lemmas.PwbBlocks
/-
Lemmas for the PWB packet round trip: masks from channel lists, sample bytes, block
concatenation. Core Lean only.
-/
namespace AlphaG.Pwb

theorem sum_setBits (m : Nat) : ∀ n, ((setBits m n).map (2 ^ ·)).sum = m % 2 ^ n
  | 0 => by simp [setBits, Nat.mod_one]
  | n + 1 => by
    rw [setBits_succ, List.map_append, List.sum_append, sum_setBits m n, Nat.mod_pow_succ]
    have hb : m.testBit n = decide (m / 2 ^ n % 2 = 1) := Nat.testBit_eq_decide_div_mod_eq
    by_cases h : m / 2 ^ n % 2 = 1
    · simp [hb, h]
    · have h0 : m / 2 ^ n % 2 = 0 := by omega
      simp [hb, h0]

theorem maskOf_chansOf : ∀ (idx : List Nat), (∀ i ∈ idx, i < 79) →
    maskOf (chansOf idx) = (idx.map (2 ^ ·)).sum
  | [], _ => rfl
  | i :: idx, h => by
    obtain ⟨_, c, hc, _, hinv⟩ := readout_left_inv i (h i List.mem_cons_self)
    have ih := maskOf_chansOf idx (fun j hj => h j (List.mem_cons_of_mem _ hj))
    unfold maskOf chansOf at ih ⊢
    rw [List.filterMap_cons, hc]
    simp only [List.map_cons, List.sum_cons, ih, hinv, Nat.add_sub_cancel]

theorem maskOf_setBits (m : Nat) (h : m < 2 ^ 79) : maskOf (chansOf (setBits m 79)) = m := by
  rw [maskOf_chansOf _ (setBits_lt _ _), sum_setBits, Nat.mod_eq_of_lt h]

theorem waveBytes_append (l₁ l₂ : List Int) : waveBytes (l₁ ++ l₂) = waveBytes l₁ ++ waveBytes l₂ := by
  simp [waveBytes]

theorem waveBytes_range (b : List UInt8) (o : Nat) : ∀ n, o + 2 * n ≤ b.length →
    waveBytes ((List.range n).map (fun j => toSigned 16 (leAt b (o + 2 * j) 2)))
      = (b.drop o).take (2 * n)
  | 0, _ => by simp [waveBytes]
  | n + 1, h => by
    rw [List.range_succ, List.map_append, waveBytes_append, waveBytes_range b o n (by omega)]
    have hv := leAt_lt b (o + 2 * n) 2
    simp only [List.map_cons, List.map_nil, waveBytes, List.flatMap_cons, List.flatMap_nil,
      List.append_nil]
    rw [ofSigned_toSigned (bits := 16) (by omega), leBytes_leAt b (o + 2 * n) 2 (by omega),
      show 2 * (n + 1) = 2 * n + 2 by omega, List.take_add, List.drop_drop]

/-- A channel block `d` with header words `r`, `req` (and a zero padding word when `req` is odd) is
the encoding of `r`, `req` and its samples: the four parts are consecutive windows of `d`. -/
theorem block_bytes (d : List UInt8) (r req : Nat) (hlen : bpc req ≤ d.length)
    (h0 : leAt d 0 2 = r) (h2 : leAt d 2 2 = req)
    (hpad : req % 2 = 1 → leAt d (4 + 2 * req) 2 = 0) :
    leBytes r 2 ++ leBytes req 2
      ++ waveBytes ((List.range req).map (fun j => toSigned 16 (leAt d (4 + 2 * j) 2)))
      ++ (if req % 2 = 0 then [] else [0, 0]) = d.take (bpc req) := by
  subst h0 h2
  have hb := bpc_eq (leAt d 2 2)
  rw [hb, waveBytes_range d 4 _ (by omega)]
  by_cases ho : leAt d 2 2 % 2 = 0
  · simp (disch := omega) only [ho, if_true, List.append_nil, leBytes_leAt, List.drop_zero,
      ← List.take_add, Nat.reduceAdd, Nat.reduceMul, Nat.add_zero]
  · have h1 : leAt d 2 2 % 2 = 1 := by omega
    have hz : ([0, 0] : List UInt8) = leBytes (leAt d (4 + 2 * leAt d 2 2) 2) 2 := by
      rw [hpad h1]; rfl
    rw [if_neg ho, hz, h1]
    simp (disch := omega) only [leBytes_leAt, List.drop_zero, ← List.take_add, Nat.reduceAdd,
      Nat.reduceMul]

theorem flatMap_blocks {α : Type} (f : α → List UInt8) (B : Nat) : ∀ (l : List α) (d : List UInt8),
    (∀ k (hk : k < l.length), f l[k] = (d.drop (B * k)).take B) →
    l.flatMap f = d.take (B * l.length)
  | [], d, _ => by simp
  | x :: xs, d, h => by
    have h0 := h 0 (by simp)
    simp only [List.getElem_cons_zero, Nat.mul_zero, List.drop_zero] at h0
    have ih := flatMap_blocks f B xs (d.drop B) (by
      intro k hk
      have := h (k + 1) (by simpa using hk)
      simp only [List.getElem_cons_succ] at this
      rw [this, List.drop_drop, Nat.mul_succ, Nat.add_comm])
    rw [List.flatMap_cons, h0, ih, List.length_cons, Nat.mul_succ, Nat.add_comm (B * xs.length) B,
      List.take_add]

end AlphaG.Pwb
