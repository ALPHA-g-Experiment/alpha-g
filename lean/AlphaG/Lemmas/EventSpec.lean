import AlphaG.Lemmas.EventSlots
/-
C10, specification of `try_from_banks`, written from the property text: what each bank delivers
(`wireName`, `wireHit`, `chunkOf`, `trgOf`), what each slot and the timestamp must hold
(`expectedWire`, `expectedPad`, `expectedTs`), and the state-free, order-free acceptance predicate
`Accepts`. It has none of the model's loops, state or occupancy tests; it does share with the
model the decoders and maps, `calibrate`, the reading of a bank (`boardOf`, `a16Row`, `chunkKey`,
`toChunkV`) and the grouping step `pushChunk` (`groupsOf` folds it). Each `expected…` is `pick1`
of a list of hits; the lemmas here say so, and say what one more bank adds to the lists.
-/
namespace AlphaG.Event
open AlphaG AlphaG.Generated AlphaG.Maps

variable {α : Type} (ops : Ops α)

/-- Value of a lookup, where it succeeded. The default only keeps `afterWireDelay`, `expectedWire`
and their pad twins total: on accepted banks every lookup behind a hit succeeds (`WireFine`,
`ChanFine`), so no slot of a built event is ever compared with a value made from a default. -/
def okD {ε β : Type} (d : β) : Outcome ε β → β
  | .ok v => v
  | _ => d

/-- The raw waveform a bank delivers to wire `w`: the bank is named as an anode-wire bank, its
payload is a well-formed ADC packet of an anode-wire channel, and the run's map sends the
packet's (board, channel) to `w` (a suppressed packet carries no board id: the name's). -/
def wireHit (run w : Nat) (b : Bank) : Option (List Int) :=
  match BankName.parseBankName b.1 with
  | .ok nm =>
    match nm.kind with
    | .adc32 =>
      match Adc.decodeAdcPacket b.2 with
      | .ok p =>
        match p.channelId with
        | .a32 ch =>
          if Maps.wirePosition run (a16Row (boardOf nm p)) ch = .ok w then some p.waveform else none
        | .a16 _ => none
      | _ => none
    | _ => none
  | _ => none

/-- Something is left of the waveform after the run's leading delay samples are removed. -/
def afterWireDelay (run : Nat) (wf : List Int) : Bool :=
  !(wf.drop (okD 0 (wireDelay run))).isEmpty

/-- The waveforms for wire `w` that are non-empty after the delay, in bank order. -/
def wireHits (run w : Nat) (banks : List Bank) : List (List Int) :=
  (banks.filterMap (wireHit run w)).filter (afterWireDelay run)

/-- The calibrated signal of wire `w` for the raw waveform `wf`. -/
def wireSignal (run w : Nat) (wf : List Int) : List α :=
  calibrate ops (okD 0 (wireBaseline run w)) (ops.ofBits (okD 0 (wireGainBits run w)))
    (okD 0 (wireDelay run)) wf

/-- C10: what wire slot `w` must hold — the unique waveform for `w`, delay samples removed,
`(v − baseline w) · gain w`; `none` when there is none. -/
def expectedWire (run : Nat) (banks : List Bank) (w : Nat) : Option (List α) :=
  match wireHits run w banks with
  | [wf] => some (calibrate ops (okD 0 (wireBaseline run w)) (ops.ofBits (okD 0 (wireGainBits run w)))
              (okD 0 (wireDelay run)) wf)
  | _ => none

theorem expectedWire_eq (run : Nat) (banks : List Bank) (w : Nat) :
    expectedWire ops run banks w = pick1 (wireSignal ops run w) (wireHits run w banks) := by
  unfold expectedWire
  split <;> simp_all [pick1, wireSignal]

/-- The chunk a bank contributes: the bank is named as a PadWing bank and its payload is a
well-formed chunk; keyed by the (board, chip) of the chunk header. -/
def chunkOf (b : Bank) : Option (Key × Pwb.ChunkV) :=
  match BankName.parseBankName b.1 with
  | .ok nm =>
    match nm.kind with
    | .padwing =>
      match Chunk.decodeChunk b.2 with
      | .ok c => some (chunkKey c, toChunkV c)
      | _ => none
    | _ => none
  | _ => none

/-- All chunks of the event grouped by (board, chip), groups in order of first appearance. -/
def groupsOf (banks : List Bank) : List Group :=
  (banks.filterMap chunkOf).foldl (fun gs kc => pushChunk kc.1 kc.2 gs) []

def afterPadDelay (run : Nat) (wf : List Int) : Bool :=
  !(wf.drop (okD 0 (padDelay run))).isEmpty

/-- What one sent channel of a reassembled packet delivers to pad `(c, r)`: pad channels only
(reset and FPN channels deliver nothing), through the run's map of (board, chip, pad channel),
if something is left after the delay. -/
def chanHit (run c r : Nat) (p : Pwb.PwbPacket) : Pwb.ChannelId → List (List Int)
  | .pad n =>
    if Maps.padPosition run (pwbRow p) p.afterId n = .ok (c, r) then
      match Pwb.waveformAt p (.pad n) with
      | .ok (some wf) => if afterPadDelay run wf then [wf] else []
      | _ => []
    else []
  | _ => []

def packetHits (run c r : Nat) (p : Pwb.PwbPacket) (cs : List Pwb.ChannelId) : List (List Int) :=
  cs.flatMap (chanHit run c r p)

def groupHits (run c r : Nat) (g : Group) : List (List Int) :=
  match Pwb.reassemble g.2 with
  | .ok p => packetHits run c r p p.channelsSent
  | _ => []

/-- The waveforms for pad `(c, r)` that are non-empty after the delay. -/
def padHits (run c r : Nat) (gs : List Group) : List (List Int) := gs.flatMap (groupHits run c r)

/-- The calibrated signal of pad `cr = (column, row)` for the raw waveform `wf`. -/
def padSignal (run : Nat) (cr : Nat × Nat) (wf : List Int) : List α :=
  calibrate ops (okD 0 (padBaseline run cr.1 cr.2)) (ops.ofBits (okD 0 (padGainBits run cr.1 cr.2)))
    (okD 0 (padDelay run)) wf

def expectedOf (run c r : Nat) (hits : List (List Int)) : Option (List α) :=
  match hits with
  | [wf] => some (calibrate ops (okD 0 (padBaseline run c r)) (ops.ofBits (okD 0 (padGainBits run c r)))
              (okD 0 (padDelay run)) wf)
  | _ => none

theorem expectedOf_eq (run c r : Nat) (hits : List (List Int)) :
    expectedOf ops run c r hits = pick1 (padSignal ops run (c, r)) hits := by
  unfold expectedOf
  split <;> simp_all [pick1, padSignal]

/-- C10: what pad slot `(c, r)` must hold. -/
def expectedPad (run : Nat) (banks : List Bank) (c r : Nat) : Option (List α) :=
  expectedOf ops run c r (padHits run c r (groupsOf banks))

/-- The timestamp a bank delivers: the bank is named `ATAT` and holds a well-formed TRG packet. -/
def trgOf (b : Bank) : Option Nat :=
  match BankName.parseBankName b.1 with
  | .ok nm =>
    match nm.kind with
    | .trg =>
      match Trg.decode b.2 with
      | .ok p => some p.timestamp
      | _ => none
    | _ => none
  | _ => none

/-- C10: the event timestamp is the TRG packet's (there is exactly one). -/
def expectedTs (banks : List Bank) : Option Nat :=
  match banks.filterMap trgOf with
  | [t] => some t
  | _ => none

theorem expectedTs_eq (banks : List Bank) : expectedTs banks = pick1 id (banks.filterMap trgOf) := by
  unfold expectedTs
  split <;> simp_all [pick1]

/-- The `Adc32BankName` of a bank, as (board row, channel). -/
def wireName (b : Bank) : Option (Nat × Nat) :=
  match BankName.parseBankName b.1 with
  | .ok nm =>
    match nm.kind with
    | .adc32 => some (nm.board, nm.channel)
    | _ => none
  | _ => none

/-- An anode-wire bank that is fine on its own: well-formed packet of an anode-wire channel that
agrees with the bank name, and — if it carries samples — a wire and a calibration for it. -/
def WireFine (run : Nat) (nm : BankName.Name) (data : List UInt8) : Prop :=
  ∃ p ch, Adc.decodeAdcPacket data = .ok p ∧ p.channelId = .a32 ch
    ∧ (alpha16Boards[nm.board]?, nm.channel) = (boardOf nm p, ch)
    ∧ (p.waveform ≠ [] → ∃ w bl g d, wirePosition run (a16Row (boardOf nm p)) ch = .ok w
        ∧ wireBaseline run w = .ok bl ∧ wireGainBits run w = .ok g ∧ wireDelay run = .ok d)

/-- A bank that is fine on its own. -/
def BankFine (run : Nat) (b : Bank) : Prop :=
  ∃ nm, BankName.parseBankName b.1 = .ok nm
    ∧ (nm.kind = .adc32 → WireFine run nm b.2)
    ∧ (nm.kind = .padwing → ∃ c, Chunk.decodeChunk b.2 = .ok c
          ∧ Chunk.boardOfDeviceId c.deviceId = padwingBoards[nm.board]?)
    ∧ (nm.kind = .trg → ∃ p, Trg.decode b.2 = .ok p)

/-- A sent pad channel that has a waveform, a pad and a calibration. -/
def ChanFine (run : Nat) (k : Key) (p : Pwb.PwbPacket) (n : Nat) : Prop :=
  ∃ wf pos bl g d, Pwb.waveformAt p (.pad n) = .ok (some wf)
    ∧ padPosition run (keyRow k) (keyChip k) n = .ok pos
    ∧ padBaseline run pos.1 pos.2 = .ok bl ∧ padGainBits run pos.1 pos.2 = .ok g
    ∧ padDelay run = .ok d

/-- A group of chunks that is fine on its own: reassembles into a packet that names the board and
chip of its chunks, every sent pad channel is fine. -/
def GroupFine (run : Nat) (g : Group) : Prop :=
  ∃ p, Pwb.reassemble g.2 = .ok p ∧ some (packetBoard p) = g.1.1
    ∧ Chunk.afterOfNat p.afterId = g.1.2
    ∧ ∀ n, Pwb.ChannelId.pad n ∈ p.channelsSent → ChanFine run g.1 p n

/-- **Acceptance**: every bank is fine, no anode-wire bank name occurs twice, there is exactly one
TRG bank, every (board, chip) group of chunks is fine. -/
structure Accepts (run : Nat) (banks : List Bank) : Prop where
  fine : ∀ b ∈ banks, BankFine run b
  names : (banks.filterMap wireName).Nodup
  trg : (banks.filterMap trgOf).length = 1
  groups : ∀ g ∈ groupsOf banks, GroupFine run g

/-- What acceptance says of a bank whose name parses to `nm`. -/
theorem Accepts.bank {run : Nat} {banks : List Bank} (ha : Accepts run banks) {b : Bank}
    (hb : b ∈ banks) {nm : BankName.Name} (hnm : BankName.parseBankName b.1 = .ok nm) :
    (nm.kind = .adc32 → WireFine run nm b.2)
    ∧ (nm.kind = .padwing → ∃ c, Chunk.decodeChunk b.2 = .ok c
          ∧ Chunk.boardOfDeviceId c.deviceId = padwingBoards[nm.board]?)
    ∧ (nm.kind = .trg → ∃ p, Trg.decode b.2 = .ok p) := by
  obtain ⟨nm', hnm', h⟩ := ha.fine b hb
  rw [hnm] at hnm'; cases hnm'; exact h

/-- What acceptance says of an anode-wire bank whose payload decodes to `p`. -/
theorem Accepts.wirePacket {run : Nat} {banks : List Bank} (ha : Accepts run banks) {b : Bank}
    (hb : b ∈ banks) {nm : BankName.Name} (hnm : BankName.parseBankName b.1 = .ok nm)
    (hk : nm.kind = .adc32) {p : Adc.Packet} (hp : Adc.decodeAdcPacket b.2 = .ok p) :
    ∃ ch, p.channelId = .a32 ch ∧ (alpha16Boards[nm.board]?, nm.channel) = (boardOf nm p, ch)
      ∧ (p.waveform ≠ [] → ∃ w bl g d, wirePosition run (a16Row (boardOf nm p)) ch = .ok w
          ∧ wireBaseline run w = .ok bl ∧ wireGainBits run w = .ok g ∧ wireDelay run = .ok d) := by
  obtain ⟨p', ch, hd, h⟩ := (ha.bank hb hnm).1 hk
  rw [hp] at hd; cases hd; exact ⟨ch, h⟩

theorem calibrate_isEmpty (bl : Int) (g : α) (d : Nat) (wf : List Int) :
    (calibrate ops bl g d wf).isEmpty = (wf.drop d).isEmpty := by
  unfold calibrate
  cases wf.drop d <;> rfl

theorem delivers {name : String} {data : List UInt8} {nm : BankName.Name}
    (hp : BankName.parseBankName name = .ok nm) :
    wireName (name, data) = (if nm.kind = .adc32 then some (nm.board, nm.channel) else none)
    ∧ (nm.kind ≠ .trg → trgOf (name, data) = none)
    ∧ (nm.kind ≠ .padwing → chunkOf (name, data) = none)
    ∧ (nm.kind ≠ .adc32 → ∀ run w, wireHit run w (name, data) = none) := by
  unfold wireName trgOf chunkOf wireHit
  rw [hp]
  cases hk : nm.kind <;> simp [hk]

theorem trgOf_of_kind {name : String} {data : List UInt8} {nm : BankName.Name}
    (hp : BankName.parseBankName name = .ok nm) (hk : nm.kind = .trg) {p : Trg.Packet}
    (hd : Trg.decode data = .ok p) : trgOf (name, data) = some p.timestamp := by
  unfold trgOf; rw [hp]; simp only [hk, hd]

theorem chunkOf_of_kind {name : String} {data : List UInt8} {nm : BankName.Name}
    (hp : BankName.parseBankName name = .ok nm) (hk : nm.kind = .padwing) {c : Chunk.Chunk}
    (hd : Chunk.decodeChunk data = .ok c) :
    chunkOf (name, data) = some (chunkKey c, toChunkV c) := by
  unfold chunkOf; rw [hp]; simp only [hk, hd]

theorem wireHit_of_kind {name : String} {data : List UInt8} {nm : BankName.Name}
    (hp : BankName.parseBankName name = .ok nm) (hk : nm.kind = .adc32) {p : Adc.Packet}
    (hd : Adc.decodeAdcPacket data = .ok p) {ch : Nat} (hch : p.channelId = .a32 ch) (run w : Nat) :
    wireHit run w (name, data)
      = if wirePosition run (a16Row (boardOf nm p)) ch = .ok w then some p.waveform else none := by
  unfold wireHit; rw [hp]; simp only [hk, hd, hch]

theorem filterMap_snoc {β γ : Type} (f : β → Option γ) (l : List β) (b : β) :
    (l ++ [b]).filterMap f = l.filterMap f ++ (f b).toList := by
  rw [List.filterMap_append]
  cases h : f b <;> simp [List.filterMap, h]

/-- The waveforms one bank adds to wire `w`. -/
def hitsOf (run w : Nat) (b : Bank) : List (List Int) :=
  (wireHit run w b).toList.filter (afterWireDelay run)

theorem wireHits_snoc (run w : Nat) (done : List Bank) (b : Bank) :
    wireHits run w (done ++ [b]) = wireHits run w done ++ hitsOf run w b := by
  rw [wireHits, filterMap_snoc, List.filter_append]; rfl

theorem groupsOf_snoc (done : List Bank) (b : Bank) :
    groupsOf (done ++ [b])
      = (chunkOf b).toList.foldl (fun gs kc => pushChunk kc.1 kc.2 gs) (groupsOf done) := by
  rw [groupsOf, filterMap_snoc, List.foldl_append]; rfl

end AlphaG.Event
