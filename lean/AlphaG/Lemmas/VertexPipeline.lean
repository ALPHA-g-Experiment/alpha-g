import AlphaG.Model.VertexPipeline
import AlphaG.Lemmas.NelderMead
/-
Law-free lemmas for the composed model of `MainEvent::vertex()` (C09b), core Lean only: the glue
(`filterMapOk`, the stage decomposition of a panic / of a result), the sort of `beamline_clusters`
(`TrackInit.sortByKey`: a permutation, or a NaN key), the panic inventory of the drift lookup over an
arbitrary carrier, and the list of sites the clustering model can name. (Stage 1 is in
`Lemmas/VertexPipelineAval.lean`.)
-/
namespace AlphaG.VertexPipeline
open AlphaG
open AlphaG.NelderMead (bind_eq_ok bind_eq_panic)
open AlphaG.Outcome (OkOr)

section Glue
variable {ε β γ : Type}

theorem filterMapOk_spec (f : β → Outcome ε γ) (l : List β) :
    OkOr (fun s => ∃ x ∈ l, f x = .panic s) (filterMapOk f l) fun ys =>
      ∀ y ∈ ys, ∃ x ∈ l, f x = .ok y := by
  induction l with
  | nil => exact nofun
  | cons x xs ih =>
    have ih' : OkOr (fun s => ∃ z ∈ x :: xs, f z = .panic s) (filterMapOk f xs) fun ys =>
        ∀ y ∈ ys, ∃ z ∈ x :: xs, f z = .ok y :=
      ih.mono (fun _ h y hy => (h y hy).imp fun _ hz => ⟨List.mem_cons_of_mem _ hz.1, hz.2⟩)
        fun _ h => h.imp fun _ hz => ⟨List.mem_cons_of_mem _ hz.1, hz.2⟩
    unfold filterMapOk
    cases hx : f x with
    | panic s => exact ⟨x, List.mem_cons_self, hx⟩
    | err e => exact ih'
    | ok y =>
      cases hr : filterMapOk f xs with
      | ok ys => exact List.forall_mem_cons.2 ⟨⟨x, List.mem_cons_self, hx⟩, ih'.of_ok hr⟩
      | err e => exact ih'.ne_err hr
      | panic s => exact ih'.of_panic hr

theorem filterMapOk_ne_err (f : β → Outcome ε γ) (l : List β) (e : Unit) :
    filterMapOk f l ≠ .err e :=
  (filterMapOk_spec f l).ne_err

end Glue

section SortByKey
open AlphaG.TrackInit
variable {α β : Type} (o : TOps α) (key : β → α)

theorem insertBy_perm (x : β) (l : List β) : (insertBy o key x l).Perm (x :: l) := by
  induction l with
  | nil => exact List.Perm.refl _
  | cons y l ih =>
    unfold insertBy
    split
    · exact List.Perm.refl _
    · exact (List.Perm.cons y ih).trans (List.Perm.swap x y l)

theorem sortByKey_perm (l l' : List β) (h : sortByKey o key l = some l') : l'.Perm l := by
  unfold sortByKey at h
  split at h
  · cases h; exact List.Perm.refl _
  · split at h
    · cases h
    · cases h
      exact NelderMead.foldl_ins_perm (insertBy_perm o key) l []

theorem sortByKey_none (l : List β) (h : sortByKey o key l = none) :
    2 ≤ l.length ∧ ∃ x ∈ l, o.cmp (key x) (key x) = none := by
  unfold sortByKey at h
  split at h
  · cases h
  · rename_i hlen
    split at h
    · rename_i hany
      rw [List.any_eq_true] at hany
      obtain ⟨x, hx, hc⟩ := hany
      exact ⟨by omega, x, hx, by simpa [Option.isNone_iff_eq_none] using hc⟩
    · cases h

end SortByKey

variable {α : Type} (P : Pipe α)

/- `vertexOfSignals` is a chain of `Outcome.bind`s, and stages 2, 4 and 5 are written with explicit
matches that are binds too (`stagePoints_eq`, `stageTracks_eq`, `stageVertex_eq`): "which stage" is
`bind_eq_panic` / `bind_eq_ok` of Lemmas/NelderMead. -/

/-- `vertex()` panics exactly when one of its five stages does, the earlier ones having
returned; `s` is that stage's site. -/
theorem vertex_panic_stage (ev : Matching.Event α) (s : String) :
    vertexOfSignals P ev = .panic s ↔
      stageAvalanches P ev = .panic s ∨
      ∃ avs, stageAvalanches P ev = .ok avs ∧ (stagePoints P avs = .panic s ∨
        ∃ pts, stagePoints P avs = .ok pts ∧ (stageClusters P pts = .panic s ∨
          ∃ r, stageClusters P pts = .ok r ∧ (stageTracks P pts r.clusters = .panic s ∨
            ∃ ts, stageTracks P pts r.clusters = .ok ts ∧ stageVertex P ts = .panic s))) := by
  simp only [vertexOfSignals, bind_eq_panic]

theorem vertex_ok_stage (ev : Matching.Event α) (v : Option (α × α × α)) :
    vertexOfSignals P ev = .ok v ↔
      ∃ avs, stageAvalanches P ev = .ok avs ∧ ∃ pts, stagePoints P avs = .ok pts ∧
        ∃ r, stageClusters P pts = .ok r ∧ ∃ ts, stageTracks P pts r.clusters = .ok ts ∧
          stageVertex P ts = .ok v := by
  simp only [vertexOfSignals, bind_eq_ok]

theorem stagePoints_eq (avs : List (Matching.Avalanche α)) :
    stagePoints P avs =
      (filterMapOk (pointOf P) avs).bind fun sps => .ok (sps.map toHough).toArray := by
  unfold stagePoints
  cases filterMapOk (pointOf P) avs <;> rfl

theorem stageTracks_eq (pts : Array (Hough.Point α)) (clusters : List (List Nat)) :
    stageTracks P pts clusters =
      (filterMapOk (fun c => fitOf P (clusterPoints pts c)) clusters).bind fun ts => .ok ts.toArray := by
  unfold stageTracks
  cases filterMapOk (fun c => fitOf P (clusterPoints pts c)) clusters <;> rfl

theorem stageVertex_eq (ts : Array (TrackInit.TrackP α)) :
    stageVertex P ts =
      (vertexFitOf P ts).bind fun v => (remainderOf P ts v).bind fun _ => .ok (v.map (·.position)) := by
  unfold stageVertex
  cases vertexFitOf P ts with
  | ok v => cases h : remainderOf P ts v <;> simp only [Outcome.bind, h]
  | _ => rfl

/-- The shape the lookup relies on (no arithmetic): at least one z-slice, at least two knots per
table ("unit tests guarantee that the inner vector has at least 2 elements", drift.rs). -/
def DriftShape (ts : List (Drift.Slice α)) : Prop :=
  ts ≠ [] ∧ ∀ sl ∈ ts, 2 ≤ sl.table.length

/-- Once the range check `t < self.0[0].0` has failed the bracket search stays inside the table:
index 0 is found only when the first knot's time is `> t`, and `a > b` *is* `b < a`. -/
theorem rhsIndex_range (O : Drift.Ops α) (tb : List (Drift.Knot α)) (t : α) (h2 : 2 ≤ tb.length)
    (h0 : O.lt t (tb[0]'(by omega)).t = false) :
    1 ≤ Drift.rhsIndex O tb t ∧ Drift.rhsIndex O tb t < tb.length := by
  unfold Drift.rhsIndex
  cases hf : List.findIdx? (fun k => O.gt k.t t) tb with
  | none => exact ⟨by simp only [Option.getD_none]; omega, by simp only [Option.getD_none]; omega⟩
  | some i =>
    obtain ⟨hi, hp, _⟩ := List.findIdx?_eq_some_iff_getElem.1 hf
    refine ⟨Nat.pos_of_ne_zero ?_, hi⟩
    rintro rfl
    rw [Drift.Ops.gt, h0] at hp
    cases hp

/-- `DriftTable::at` on a table with at least two knots cannot panic, whatever the carrier:
`rhs_index - 1` does not underflow (`rhsIndex_range`) and every index is in bounds. -/
theorem tableAt_no_panic (O : Drift.Ops α) (tb : List (Drift.Knot α)) (t : α)
    (h2 : 2 ≤ tb.length) (s : String) : Drift.tableAt O tb t ≠ .panic s := by
  unfold Drift.tableAt
  rw [List.getElem?_eq_getElem (by omega : 0 < tb.length),
    List.getElem?_eq_getElem (by omega : tb.length - 1 < tb.length)]
  dsimp only
  split
  · intro h; cases h
  · rename_i hguard
    obtain ⟨h1, hl⟩ := rhsIndex_range O tb t h2
      (Bool.or_eq_false_iff.1 (Bool.eq_false_iff.2 hguard)).1
    rw [if_neg (by omega), List.getElem?_eq_getElem (by omega : Drift.rhsIndex O tb t - 1 < tb.length),
      List.getElem?_eq_getElem hl]
    intro h; cases h

/-- **Panic inventory of `DriftTables::at`**, any carrier, tables of the right shape: the only
reachable site is `find(..).unwrap()`, and when it fires `|z|` compares false with *every* bound —
not `> ` the last one, not `<=` any: a NaN `z`. -/
theorem tablesAt_panic (O : Drift.Ops α) (ts : List (Drift.Slice α)) (hs : DriftShape ts)
    (z t : α) (s : String) (h : Drift.tablesAt O ts z t = .panic s) :
    s = "drift:find" ∧ (∀ sl ∈ ts, O.ge sl.zUpper (O.abs z) = false) ∧
      ∀ last, ts.getLast? = some last → O.gt (O.abs z) last.zUpper = false := by
  have hne : ts.length - 1 < ts.length := by
    have := List.length_pos_iff.2 hs.1
    omega
  unfold Drift.tablesAt at h
  rw [List.getElem?_eq_getElem hne] at h
  dsimp only at h
  split at h
  · cases h
  · rename_i hgt
    split at h
    · rename_i hf
      cases h
      refine ⟨rfl, fun sl hsl => by simpa using List.find?_eq_none.1 hf sl hsl, fun last hlast => ?_⟩
      rw [List.getLast?_eq_getElem?, List.getElem?_eq_getElem hne] at hlast
      cases hlast
      simpa using hgt
    · rename_i sl hf
      exact absurd h (tableAt_no_panic O sl.table t (hs.2 sl (List.mem_of_find?_eq_some hf)) s)

theorem spacePoint_panic (O : Drift.Ops α) (ts : List (Drift.Slice α)) (av : Drift.Avalanche α)
    (s : String) : Drift.spacePoint O ts av = .panic s ↔ Drift.tablesAt O ts av.z av.t = .panic s := by
  unfold Drift.spacePoint
  cases Drift.tablesAt O ts av.z av.t <;> simp

theorem spacePoint_ok_z (O : Drift.Ops α) (ts : List (Drift.Slice α)) (av : Drift.Avalanche α)
    (sp : Drift.SpacePoint α) (h : Drift.spacePoint O ts av = .ok sp) : sp.z = av.z := by
  unfold Drift.spacePoint at h
  split at h
  · cases h; rfl
  · cases h
  · cases h

theorem stagePoints_spec (avs : List (Matching.Avalanche α)) :
    OkOr (fun s => ∃ a ∈ avs, pointOf P a = .panic s) (stagePoints P avs) fun pts =>
      ∀ p ∈ pts, ∃ a ∈ avs, ∃ sp, pointOf P a = .ok sp ∧ p = toHough sp := by
  rw [stagePoints_eq]
  refine (filterMapOk_spec (pointOf P) avs).bind fun sps h => OkOr.ok fun p hp => ?_
  obtain ⟨sp, hsp, rfl⟩ := List.mem_map.1 (List.mem_toArray.1 hp)
  obtain ⟨a, ha, hfa⟩ := h sp hsp
  exact ⟨a, ha, sp, hfa, rfl⟩

/-! ### The sites the clustering model (`Model/Cluster.lean`) can name, by inspection of every
branch — no hypothesis on the context.
(`Props/C15` shows that none of them is reachable for a `Good` context; here we only need the
*list* for the inventory of `vertex()`.) -/

section Sites
open AlphaG.Cluster

/-- Every site of `cluster_spacepoints` downstream of `get_bins`: the two `unwrap()`s of
`remove_unchecked`, the `unwrap()` of the remainder loop, and the two fuel sentinels of the model's
loops (not Rust panics: a non-terminating loop would show up as one of them). -/
def clusterSites : List String :=
  ["remove_unchecked:get_mut", "remove_unchecked:position", "remainder:position",
   "fuel:best_cluster", "fuel:cluster_loop"]

theorem removeBin_okOr (ctx : Ctx) (acc : Acc) (b p : Nat) :
    OkOr (· ∈ clusterSites) (removeBin ctx acc b p) fun _ => True := by
  unfold removeBin
  split
  · exact .panic (by decide)
  · split
    · exact .panic (by decide)
    · trivial

theorem removeBins_okOr (ctx : Ctx) (p : Nat) (bs : List Nat) (acc : Acc) :
    OkOr (· ∈ clusterSites) (removeBins ctx p bs acc) fun _ => True := by
  induction bs generalizing acc with
  | nil => trivial
  | cons b bs ih =>
    have h := removeBin_okOr ctx acc b p
    unfold removeBins
    split
    · exact ih _
    · rename_i hx
      exact h.ne_err hx
    · rename_i hx
      exact h.of_panic hx

theorem removeAll_okOr (ctx : Ctx) (ps : List Nat) (acc : Acc) :
    OkOr (· ∈ clusterSites) (removeAll ctx ps acc) fun _ => True := by
  induction ps generalizing acc with
  | nil => trivial
  | cons p ps ih =>
    have h := removeBins_okOr ctx p (ctx.bins p) acc
    unfold removeAll
    split
    · exact ih _
    · rename_i hx
      exact h.ne_err hx
    · rename_i hx
      exact h.of_panic hx

theorem bestCluster_okOr (ctx : Ctx) (fuel : Nat) (acc : Acc) (prev : List Nat) :
    OkOr (· ∈ clusterSites) (bestCluster ctx fuel acc prev) fun _ => True := by
  induction fuel generalizing acc prev with
  | zero => exact .panic (by decide)
  | succ fuel ih =>
    have h := removeAll_okOr ctx (largestCluster ctx.near (mostPopular acc)) acc
    unfold bestCluster
    dsimp only
    split
    · trivial
    · split
      · exact ih _ _
      · rename_i hx
        exact h.ne_err hx
      · rename_i hx
        exact h.of_panic hx

theorem outer_okOr (ctx : Ctx) (min n fuel : Nat) (acc : Acc) (cls : List (List Nat)) :
    OkOr (· ∈ clusterSites) (outer ctx min n fuel acc cls) fun _ => True := by
  induction fuel generalizing acc cls with
  | zero => exact .panic (by decide)
  | succ fuel ih =>
    have h := bestCluster_okOr ctx (n + 1) acc []
    unfold outer
    split
    · split
      · trivial
      · exact ih _ _
    · rename_i hx
      exact h.ne_err hx
    · rename_i hx
      exact h.of_panic hx

theorem removeFromSp_okOr (ctx : Ctx) (ps sp : List Nat) :
    OkOr (· ∈ clusterSites) (removeFromSp ctx ps sp) fun _ => True := by
  induction ps generalizing sp with
  | nil => trivial
  | cons p ps ih =>
    unfold removeFromSp
    split
    · exact .panic (by decide)
    · exact ih _

theorem cluster_okOr (ctx : Ctx) (min : Nat) (sp : List Nat) :
    OkOr (· ∈ clusterSites) (cluster ctx min sp) fun _ => True := by
  have h := outer_okOr ctx min sp.length (sp.length + 1) (fill ctx sp) []
  unfold cluster
  split
  · rename_i cls _
    have h' := removeFromSp_okOr ctx cls.flatten sp
    split
    · trivial
    · rename_i hx
      exact h'.ne_err hx
    · rename_i hx
      exact h'.of_panic hx
  · rename_i hx
    exact h.ne_err hx
  · rename_i hx
    exact h.of_panic hx

end Sites

end AlphaG.VertexPipeline
