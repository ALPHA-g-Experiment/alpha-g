import AlphaG.Model.Drift
/-
Integer-level checks of the generated drift tables (core Lean only; established for the generated
table in `AlphaG/Lemmas/DriftTablesOk.lean`, where the kernel evaluates their fast form of
`Lemmas/DriftFast.lean`). Every finite `f64` is `m · 2^e`; `dy b` is that value
scaled by `2^1074` (an integer for every finite double), so comparisons of table entries are
integer comparisons. `Lemmas/Drift.lean` transports the checks to the exact values in any
linear ordered field.
-/
namespace AlphaG.Drift

/-- biased exponent field of an `f64` bit pattern -/
def expField (b : Nat) : Nat := (b / 2 ^ 52) % 2048
/-- mantissa field -/
def manField (b : Nat) : Nat := b % 2 ^ 52
/-- sign bit -/
def signField (b : Nat) : Nat := (b / 2 ^ 63) % 2

/-- a 64-bit pattern of a finite double (not ±∞, not NaN) -/
def finiteBits (b : Nat) : Bool := decide (b < 2 ^ 64) && decide (expField b ≠ 2047)

/-- magnitude of a finite double times `2^1074` -/
def dyMag (b : Nat) : Nat :=
  if expField b = 0 then manField b else (2 ^ 52 + manField b) * 2 ^ (expField b - 1)

/-- value of a finite double times `2^1074` -/
def dy (b : Nat) : Int :=
  if signField b = 1 then -(dyMag b : Int) else (dyMag b : Int)

/-- adjacent knots: times strictly ascending, radii non-increasing, corrections non-decreasing -/
def checkAdj : List (Nat × Nat × Nat) → Bool
  | a :: b :: rest =>
    decide (dy a.1 < dy b.1) && decide (dy b.2.1 ≤ dy a.2.1) && decide (dy a.2.2 ≤ dy b.2.2)
      && checkAdj (b :: rest)
  | _ => true

def finiteKnot (k : Nat × Nat × Nat) : Bool := finiteBits k.1 && finiteBits k.2.1 && finiteBits k.2.2

def firstCorrZero : List (Nat × Nat × Nat) → Bool
  | k :: _ => decide (dy k.2.2 = 0)
  | [] => false

/-- one slice: at least two knots, all numbers finite, first correction 0, and `checkAdj` -/
def checkSlice (s : List (Nat × Nat × Nat)) : Bool :=
  decide (2 ≤ s.length) && s.all finiteKnot && firstCorrZero s && checkAdj s

def checkZAdj : List Nat → Bool
  | a :: b :: rest => decide (dy a < dy b) && checkZAdj (b :: rest)
  | _ => true

/-- z upper bounds: at least one, finite, positive, strictly ascending -/
def checkZ (zs : List Nat) : Bool :=
  decide (1 ≤ zs.length) && zs.all finiteBits && zs.all (fun z => decide (0 < dy z)) && checkZAdj zs

/-- the knots `j` listed for slice `i` -/
def exceptionsOf (l : List (Nat × Nat)) (i : Nat) : List Nat :=
  (l.filter fun e => e.1 == i).map (·.2)

/-- 8 ns step: every knot interval `j, j+1` (numbered from `j`) not listed in `exc` has
`|Δr| · 8 ns < 0.5 mm · Δt`, i.e. `|ΔR| · 16000 < ΔT · 10^9` on the scaled integers. -/
def checkStep : List (Nat × Nat × Nat) → Nat → List Nat → Bool
  | a :: b :: rest, j, exc =>
    (exc.contains j
      || (decide ((dy a.2.1 - dy b.2.1) * 16000 < (dy b.1 - dy a.1) * 1000000000)
          && decide ((dy b.2.1 - dy a.2.1) * 16000 < (dy b.1 - dy a.1) * 1000000000)))
      && checkStep (b :: rest) (j + 1) exc
  | _, _, _ => true

end AlphaG.Drift
