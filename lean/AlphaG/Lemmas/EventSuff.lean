import AlphaG.Lemmas.EventLoops
import AlphaG.Lemmas.EventGroups
/-
The acceptance predicate `Accepts` is exact: a successful build satisfies it (necessity), and
banks that are fine on their own, with pairwise distinct anode-wire names and at most one TRG
bank, pass the first loop, groups that are fine on their own pass the second loop in any order
(sufficiency). The slot-occupancy tests never fire because the wire and pad maps are injective
(C08 `wire_bijection`, `pad_bijection`): an occupied slot has a recorded source (`Owned`), and a
new source writes another slot. Between the two halves: `Accepts` and `IsEventOf` do not depend on
the order of the banks (`accepts_perm`, `IsEventOf.perm`).
-/
namespace AlphaG.Event
open AlphaG AlphaG.Generated AlphaG.Maps

variable {α : Type} (ops : Ops α)

theorem bankStep_fine {run : Nat} {b : Bank} {st st' : St α} (h : bankStep ops run b st = .ok st') :
    BankFine run b := by
  obtain ⟨nm, hnm⟩ := bankStep_ok_name ops h
  rw [bankStep_eq ops st hnm] at h
  refine ⟨nm, hnm, fun hk => ?_, fun hk => ?_, fun hk => ?_⟩ <;> simp only [hk] at h
  · obtain ⟨p, hp, hpk⟩ := wireBank_ok ops h
    obtain ⟨ch, hch, _, hid, hwf⟩ := wirePacket_ok ops hpk
    refine ⟨p, ch, hp, hch, hid, fun hne => ?_⟩
    obtain ⟨he, _⟩ | ⟨_, hstore⟩ := hwf
    · exact absurd he hne
    · obtain ⟨w, bl, g, d, hpos, _, _, hbl, hg, hd, _⟩ := wireStore_ok ops hstore
      exact ⟨w, bl, g, d, hpos, hbl, hg, hd⟩
  · obtain ⟨c, hc, hbd, _⟩ := padwingBank_ok h
    exact ⟨c, hc, hbd⟩
  · obtain ⟨p, hp, _, _⟩ := trgBank_ok h
    exact ⟨p, hp⟩

theorem groupStep_fine {run : Nat} {g : Group} {pad pad' : Array (Option (List α))}
    (h : groupStep ops run g pad = .ok pad') : GroupFine run g := by
  obtain ⟨p, hp, hk1, hk2, hcl⟩ := groupStep_ok ops h
  refine ⟨p, hp, hk1, hk2, fun n hn => ?_⟩
  rw [channelLoop_eq] at hcl
  obtain ⟨q1, q2, hs⟩ := Outcome.foldlM_ok_mem hcl _ hn
  simp only [chanStep] at hs
  split at hs <;> try cases hs
  rename_i wf hwf
  obtain ⟨pos, bl, g, d, hpos, _, _, _, hbl, hg, hd, _⟩ := padStore_ok ops hs
  exact ⟨wf, pos, bl, g, d, hwf, hpos, hbl, hg, hd⟩

theorem accepts_of_ok {order : GroupOrder} {run : Nat} {banks : List Bank} {ev : Event α}
    (h : buildEventWith ops order run banks = .ok ev) : Accepts run banks := by
  obtain ⟨st, pad, ts, h1, h2, h3, rfl⟩ := build_ok ops h
  have inv := bankLoop_loop1 ops h1
  rw [bankLoop_eq] at h1
  rw [groupLoop_eq] at h2
  refine ⟨fun b hb => ?_, inv.nodup, pick1_some (inv.ts.symm.trans h3), fun g hg => ?_⟩
  · obtain ⟨s1, s2, hs⟩ := Outcome.foldlM_ok_mem h1 b hb
    exact bankStep_fine ops hs
  · obtain ⟨q1, q2, hs⟩ := Outcome.foldlM_ok_mem h2 g
      ((order.perm st.groups).mem_iff.2 (inv.groups ▸ hg))
    exact groupStep_fine ops hs

theorem accepts_perm {run : Nat} {banks₁ banks₂ : List Bank} (h : banks₁.Perm banks₂)
    (ha : Accepts run banks₁) : Accepts run banks₂ := by
  refine ⟨fun b hb => ha.fine b (h.mem_iff.2 hb), (h.filterMap _).nodup_iff.1 ha.names,
    (h.filterMap trgOf).length_eq ▸ ha.trg, fun g hg => ?_⟩
  obtain ⟨g', hg', e⟩ := List.mem_map.1 ((groupViews_perm h).mem_iff.2 (List.mem_map_of_mem hg))
  obtain ⟨e1, e2⟩ := Prod.mk.inj e
  have := ha.groups g' hg'
  unfold GroupFine at this ⊢
  rwa [e1, e2] at this

theorem IsEventOf.perm {run : Nat} {banks₁ banks₂ : List Bank} {ev : Event α}
    (h : banks₁.Perm banks₂) (he : IsEventOf ops run banks₁ ev) : IsEventOf ops run banks₂ ev :=
  ⟨he.wire.perm fun _ => (h.filterMap _).filter _, he.pad.perm fun cr => padHits_perm run cr.1 cr.2 h,
    by rw [← pick1_perm _ (h.filterMap trgOf)]; exact he.ts⟩

/-- The anode-wire bank named (board row, channel) `x` writes wire slot `w`. -/
def WireAt (run : Nat) (x : Nat × Nat) (w : Nat) : Prop :=
  x.1 < 8 ∧ x.2 < 32 ∧ wirePosition run x.1 x.2 = .ok w

theorem wireAt_inj (run : Nat) (x x' : Nat × Nat) (w : Nat) (h : WireAt run x w)
    (h' : WireAt run x' w) : x = x' := by
  obtain ⟨a, b, c⟩ := h
  obtain ⟨a', b', c'⟩ := h'
  have := (wire_bijection run (wireMapExists_of_ok c)).inj x.1 x.2 x'.1 x'.2 w a b a' b' c c'
  exact Prod.ext this.1 this.2

/-- Occupied wire slots belong to recorded bank names. -/
abbrev WireOwned (run : Nat) (st : St α) : Prop := Owned (WireAt run) st.wire (· ∈ st.wireNames)

theorem bankStep_suff {run : Nat} {b : Bank} {st : St α} (hf : BankFine run b)
    (hname : ∀ x, wireName b = some x → x ∉ st.wireNames)
    (hts : (trgOf b).isSome → st.ts = none) (hinv : WireOwned run st) :
    ∃ st', bankStep ops run b st = .ok st' ∧ WireOwned run st' := by
  obtain ⟨nm, hnm, hw, hp, ht⟩ := hf
  obtain ⟨dn, -⟩ := delivers hnm
  rw [bankStep_eq ops st hnm]
  cases hk : nm.kind with
  | adc32 =>
    obtain ⟨p, ch, hdec, hch, hid, hcal⟩ := hw hk
    have hnew : (nm.board, nm.channel) ∉ st.wireNames := hname _ (by rw [dn, if_pos hk])
    have old : WireOwned run (st.named nm) := hinv.mono fun _ => List.mem_append_left _
    simp only [wireBank, hdec, wirePacket, List.contains_eq_mem, hnew, decide_false, hch, hid, ne_eq,
      not_true_eq_false, Bool.false_eq_true, if_false]
    split
    · exact ⟨_, rfl, old⟩
    · rename_i he
      obtain ⟨w, bl, g, d, hpos, hbl, hg, hd⟩ := hcal (by simpa using he)
      -- the name is one of the 8 × 32 that exist; the packet's (board row, channel) is the name's
      obtain ⟨hb8, hc32⟩ : nm.board < 8 ∧ nm.channel < 32 := by
        have := (BankName.mainName_ok _ _ hnm).1
        rwa [BankName.ValidName, hk] at this
      rw [← (Prod.mk.inj hid).1, a16Row_row nm.board hb8, ← (Prod.mk.inj hid).2] at hpos ⊢
      have hat : WireAt run (nm.board, nm.channel) w := ⟨hb8, hc32, hpos⟩
      have hlt : decide (w < nWires) = true :=
        decide_eq_true (wirePosition_ok_lt run _ _ w hb8 hc32 hpos)
      -- the slot is free: another bank on this wire would have the same name
      have hfree : slotTaken st.wire w = false := hinv.free (wireAt_inj run) hat hnew
      have hsub : subFitsI32 bl (p.waveform.drop d) = true :=
        subFitsI32_of_range bl _ (wireBaseline_range run w bl hbl)
          fun v hv => (adc_facts b.2 p hdec).2 v (List.mem_of_mem_drop hv)
      simp only [wireStore, hpos, need_eq hlt, hfree, hbl, hg, hd, need_eq hsub, Bool.false_eq_true,
        if_false]
      split
      · exact ⟨_, rfl, old⟩
      · exact ⟨_, rfl, (hinv.store hat _).mono fun _ => by simp⟩
  | padwing =>
    obtain ⟨c, hdec, hbd⟩ := hp hk
    obtain ⟨hb, ha⟩ := chunk_facts b.2 c hdec
    simp only [padwingBank, hdec]
    rw [need_eq hb, need_eq ha, if_neg (fun hh => hh hbd)]
    exact ⟨_, rfl, hinv⟩
  | trg =>
    obtain ⟨p, hdec⟩ := ht hk
    have : trgOf b = some p.timestamp := trgOf_of_kind hnm hk hdec
    simp only [trgBank, hdec, hts (by simp [this]), Option.isSome_none, Bool.false_eq_true, if_false]
    exact ⟨_, rfl, hinv⟩
  | _ => exact ⟨st, rfl, hinv⟩

theorem bankLoop_suff {run : Nat} {banks : List Bank} (hf : ∀ b ∈ banks, BankFine run b)
    (hn : (banks.filterMap wireName).Nodup) (ht : (banks.filterMap trgOf).length ≤ 1) :
    ∃ st : St α, bankLoop ops run banks St.init = .ok st ∧ Loop1 ops run st banks := by
  rw [bankLoop_eq]
  refine (Outcome.foldlM_ok_of_split (Q := fun st done => Loop1 ops run st done ∧ WireOwned run st)
    (fun st done b rest e ⟨inv, ho⟩ => ?_) ⟨loop1_init ops run, owned_replicate _⟩).imp
    fun _ q => ⟨q.1, q.2.1⟩
  -- `st` records the names and the timestamp of `done` (`Loop1`): that the name of `b` is new and
  -- its timestamp, if any, the first is read off `hn`, `ht` for `done ++ b :: rest`
  rw [e, List.filterMap_append, List.filterMap_cons] at hn ht
  obtain ⟨st', hs, ho'⟩ := bankStep_suff ops
    (hf b (e ▸ List.mem_append_right _ List.mem_cons_self))
    (fun x hx hm => by
      rw [hx] at hn
      exact (List.nodup_append.1 hn).2.2 x (inv.names ▸ hm) x List.mem_cons_self rfl)
    (fun hx => by
      obtain ⟨t, hx⟩ := Option.isSome_iff_exists.1 hx
      rw [hx, List.length_append, List.length_cons] at ht
      rw [inv.ts, List.length_eq_zero_iff.1 (by omega : (done.filterMap trgOf).length = 0)]
      rfl)
    ho
  exact ⟨st', hs, bankStep_loop1 ops st st' done b hs inv, ho'⟩

/-- Pad channel `t.2.2` of chip `t.2.1` of board row `t.1` writes pad slot `i`. -/
def PadAt (run : Nat) (t : Nat × Nat × Nat) (i : Nat) : Prop :=
  t.1 < padwingBoards.length ∧ t.2.1 < 4 ∧ 1 ≤ t.2.2 ∧ t.2.2 ≤ 72
    ∧ ∃ pos, padPosition run t.1 t.2.1 t.2.2 = .ok pos ∧ i = pos.1 * nPadRows + pos.2

theorem padAt_inj (run : Nat) (t t' : Nat × Nat × Nat) (i : Nat) (h : PadAt run t i)
    (h' : PadAt run t' i) : t = t' := by
  obtain ⟨b1, b2, b3, b4, pos, hpos, hi⟩ := h
  obtain ⟨c1, c2, c3, c4, pos', hpos', hi'⟩ := h'
  obtain ⟨q1, q2⟩ := padPosition_ok_lt run _ _ _ pos b1 b2 b3 b4 hpos
  obtain ⟨r1, r2⟩ := padPosition_ok_lt run _ _ _ pos' c1 c2 c3 c4 hpos'
  have hpe : pos' = pos := padIdx_inj pos' pos ⟨r1, r2⟩ ⟨q1, q2⟩ (hi'.symm.trans hi)
  obtain ⟨e1, e2, e3⟩ := (pad_bijection run (pwbMapExists_of_ok hpos)).inj _ _ _ _ _ _ pos
    b1 b2 b3 b4 c1 c2 c3 c4 hpos (hpe ▸ hpos')
  exact Prod.ext e1 (Prod.ext e2 e3)

theorem padStore_suff {run board chip n : Nat} {wf : List Int} {pad : Array (Option (List α))}
    {S : Nat × Nat × Nat → Prop} (hb : board < padwingBoards.length) (hc : chip < 4)
    (h1 : 1 ≤ n) (h2 : n ≤ 72) (hw : ∀ v ∈ wf, -32768 ≤ v ∧ v ≤ 32767)
    {pos : Nat × Nat} {bl : Int} {g d : Nat}
    (hpos : padPosition run board chip n = .ok pos) (hbl : padBaseline run pos.1 pos.2 = .ok bl)
    (hg : padGainBits run pos.1 pos.2 = .ok g) (hd : padDelay run = .ok d)
    (hnew : ¬ S (board, chip, n)) (hinv : Owned (PadAt run) pad S) :
    ∃ pad', padStore ops run board chip n wf pad = .ok pad'
      ∧ Owned (PadAt run) pad' (fun t => S t ∨ t = (board, chip, n)) := by
  obtain ⟨hp1, hp2⟩ := padPosition_ok_lt run board chip n pos hb hc h1 h2 hpos
  have hat : PadAt run (board, chip, n) (pos.1 * nPadRows + pos.2) := ⟨hb, hc, h1, h2, pos, hpos, rfl⟩
  have hc1 : decide (pos.1 < nPadColumns) = true := decide_eq_true hp1
  have hc2 : decide (pos.2 < nPadRows) = true := decide_eq_true hp2
  -- the slot is free: another channel on this pad would be the same (board, chip, channel)
  have hfree := hinv.free (padAt_inj run) hat hnew
  have hsub : subFitsI32 bl (wf.drop d) = true :=
    subFitsI32_of_range bl _ (padBaseline_range run _ _ bl hbl) fun v hv => hw v (List.mem_of_mem_drop hv)
  simp only [padStore, hpos, need_eq hc1, need_eq hc2, hfree, hbl, hg, hd, need_eq hsub,
    Bool.false_eq_true, if_false]
  split
  · exact ⟨_, rfl, hinv.mono fun _ => Or.inl⟩
  · exact ⟨_, rfl, hinv.store hat _⟩

/-- A key as it comes out of `Chunk::board_id()` / `after_id()`. -/
def KeyValid (k : Key) : Prop := ∃ b a, k = (some b, some a) ∧ b ∈ padwingBoards

/-- Distinct valid keys are distinct (board row, chip) pairs: the board names are distinct. -/
theorem key_rc_inj {k k' : Key} (hk : KeyValid k) (hk' : KeyValid k')
    (h : (keyRow k, keyChip k) = (keyRow k', keyChip k')) : k = k' := by
  obtain ⟨b, a, rfl, hb⟩ := hk
  obtain ⟨b', a', rfl, hb'⟩ := hk'
  obtain ⟨i, hi, rfl⟩ := List.mem_iff_getElem.1 hb
  obtain ⟨i', hi', rfl⟩ := List.mem_iff_getElem.1 hb'
  obtain ⟨h1, h2⟩ := Prod.mk.inj h
  rw [keyRow_row, keyRow_row] at h1
  subst h1
  rw [afterNum_inj a a' h2]

theorem groupFine_keyValid {run : Nat} {g : Group} (h : GroupFine run g) : KeyValid g.1 := by
  obtain ⟨p, hp, hk1, hk2, _⟩ := h
  have hdec := Pwb.reassemble_ok_eq_direct g.2 p hp
  have hlt := (pwb_facts _ p hdec).1
  obtain ⟨a, ha⟩ := Option.isSome_iff_exists.1 ((Chunk.afterOfNat_some_iff p.afterId).2 (by omega))
  exact ⟨packetBoard p, a, Prod.ext hk1.symm (by rw [← hk2, ha]), packetBoard_mem hdec⟩

/-- (board row, chip) of a group. -/
abbrev rc (g : Group) : Nat × Nat := (keyRow g.1, keyChip g.1)

theorem groupStep_suff {run : Nat} {g : Group} {pad : Array (Option (List α))}
    {S : Nat × Nat × Nat → Prop} (hf : GroupFine run g) (hnew : ∀ t, S t → (t.1, t.2.1) ≠ rc g)
    (hinv : Owned (PadAt run) pad S) :
    ∃ pad', groupStep ops run g pad = .ok pad'
      ∧ Owned (PadAt run) pad' (fun t => S t ∨ (t.1, t.2.1) = rc g) := by
  obtain ⟨p, hp, hk1, hk2, hch⟩ := hf
  have hdec := Pwb.reassemble_ok_eq_direct g.2 p hp
  obtain ⟨_, f2, f3⟩ := pwb_facts _ p hdec
  have hnd := (Pwb.pwb_channels_sent _ p hdec).2.2.1
  simp only [groupStep, hp, hk1, hk2, ne_eq, not_true_eq_false, if_false, channelLoop_eq]
  refine (Outcome.foldlM_ok_of_split
    (Q := fun pad done =>
      Owned (PadAt run) pad fun t => S t ∨ (t.1, t.2.1) = rc g ∧ .pad t.2.2 ∈ done)
    (fun pad done c rest e ho => ?_) (hinv.mono fun _ => Or.inl)).imp
    fun pad' h => ⟨h.1, h.2.mono fun t => Or.imp_right And.left⟩
  cases c with
  | pad n =>
    have hmem : .pad n ∈ p.channelsSent := e ▸ List.mem_append_right _ List.mem_cons_self
    obtain ⟨wf, pos, bl, gn, d, hwf, hpos, hbl, hg, hd⟩ := hch n hmem
    obtain ⟨wf', hwf', hr⟩ := f3 _ hmem
    rw [hwf] at hwf'; cases hwf'
    obtain ⟨pad', hs, ho'⟩ := padStore_suff ops (keyRow_lt g.1) (keyChip_lt g.1)
      (f2 n hmem).1 (f2 n hmem).2 hr hpos hbl hg hd
      (by
        rintro (hs | ⟨-, hd⟩)
        · exact hnew _ hs rfl
        · rw [e] at hnd
          exact (List.nodup_append.1 hnd).2.2 _ hd _ List.mem_cons_self rfl)
      ho
    refine ⟨pad', by simp only [chanStep, hwf, hs], ho'.mono fun t => ?_⟩
    rintro ((hs | hs) | rfl)
    · exact Or.inl hs
    · exact Or.inr ⟨hs.1, List.mem_append_left _ hs.2⟩
    · exact Or.inr ⟨rfl, by simp⟩
  | _ => exact ⟨pad, rfl, ho.mono fun t => Or.imp_right (And.imp_right (List.mem_append_left _))⟩

theorem groupLoop_suff {run : Nat} {gs : List Group} (hf : ∀ g ∈ gs, GroupFine run g)
    (hnd : (gs.map rc).Nodup) :
    ∃ pad', groupLoop ops run gs (St.init : St α).pad = .ok pad' := by
  rw [groupLoop_eq]
  refine (Outcome.foldlM_ok_of_split
    (Q := fun pad done => Owned (PadAt run) pad fun t => (t.1, t.2.1) ∈ done.map rc)
    (fun pad done g rest e ho => ?_) (owned_replicate _)).imp fun _ h => h.1
  rw [e, List.map_append, List.map_cons] at hnd
  obtain ⟨pad', hs, ho'⟩ := groupStep_suff ops
    (hf g (e ▸ List.mem_append_right _ List.mem_cons_self))
    (fun t ht e' => (List.nodup_append.1 hnd).2.2 _ (e' ▸ ht) _ List.mem_cons_self rfl) ho
  exact ⟨pad', hs, ho'.mono fun t => by simp⟩

theorem ok_of_accepts {run : Nat} {banks : List Bank} (h : Accepts run banks)
    (order : GroupOrder) : ∃ ev : Event α, buildEventWith ops order run banks = .ok ev := by
  obtain ⟨st, hst, inv⟩ := bankLoop_suff ops (α := α) h.fine h.names (Nat.le_of_eq h.trg)
  have hperm := order.perm st.groups
  have hfine : ∀ g ∈ order.f st.groups, GroupFine run g :=
    fun g hg => h.groups g (inv.groups ▸ hperm.mem_iff.1 hg)
  have hrc : ((order.f st.groups).map rc).Nodup := by
    have hkeys : ((order.f st.groups).map (·.1)).Nodup :=
      (hperm.map _).nodup_iff.2 (inv.groups ▸ (groupsOf_ok banks).nodup)
    exact List.pairwise_map.2 ((List.pairwise_map.1 hkeys).imp_of_mem fun hg hg' hne e =>
      hne (key_rc_inj (groupFine_keyValid (hfine _ hg)) (groupFine_keyValid (hfine _ hg')) e))
  obtain ⟨pad, hp⟩ := groupLoop_suff ops hfine hrc
  obtain ⟨t, hts⟩ : ∃ t, st.ts = some t := by
    rw [inv.ts]
    match banks.filterMap trgOf, h.trg with
    | [t], _ => exact ⟨t, rfl⟩
  exact ⟨{ wire := st.wire, pad := pad, ts := t }, by
    simp only [buildEventWith, hst, finish, inv.pad, hp, hts]⟩

/-- The build succeeds with `ev` exactly when the banks are accepted and `ev` is the event of the
specification, whatever the iteration order of the chunk map. -/
theorem build_ok_iff (order : GroupOrder) (run : Nat) (banks : List Bank) (ev : Event α) :
    buildEventWith ops order run banks = .ok ev ↔ Accepts run banks ∧ IsEventOf ops run banks ev := by
  refine ⟨fun h => ⟨accepts_of_ok ops h, isEventOf_of_ok ops h⟩, fun ⟨ha, he⟩ => ?_⟩
  obtain ⟨ev', h'⟩ := ok_of_accepts ops ha order
  rw [h', he.unique ops (isEventOf_of_ok ops h')]

end AlphaG.Event
