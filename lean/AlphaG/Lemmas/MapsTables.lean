import AlphaG.Model.Maps
import AlphaG.Lemmas.Bytes
import AlphaG.Lemmas.MapsBij
/-
Structural bijection lemmas for the detector maps (C08). Each generated table is validated by
a small kernel-evaluated check (`wireTablesOk`: 16 + 32 steps of `permCheck`; `pwbTableOk`: one
lookup per cell and per board, each a search of the table by board *name*, which makes it the
dearest of the three; `padOk`: 288 steps); the lemmas here turn those checks into bijection
statements and compose them (8 boards × 32 channels → 256 wires; 64 installed boards × 4 chips ×
72 channels → 32 × 576 pads) by arithmetic, without enumerating the 18 432 pads. Core Lean only.
-/
namespace AlphaG.Maps
open AlphaG AlphaG.Generated

/-- Preamp on connector `k % 2` of board `k / 2`. -/
def preOf (rows : List (String × Nat × Nat)) (k : Nat) : Nat :=
  if k % 2 = 0 then firstPreamp rows (k / 2) else secondPreamp rows (k / 2)

def chanOf (chans : List Nat) (c : Nat) : Nat := chans.getD c 0

/-- Kernel-evaluated validity of a (preamp table, channel table) pair: every name resolves,
every Alpha16 board has a row, the 16 connectors carry the 16 preamps, the 32 channels are a
permutation. -/
def wireTablesOk (rows : List (String × Nat × Nat)) (chans : List Nat) : Bool :=
  preampRowsResolve rows
    && (List.range 8).all (fun b => (preampLookup rows b).isSome)
    && permCheck (preOf rows) 16
    && decide (chans.length = 32)
    && permCheck (chanOf chans) 32

/-- `(board, channel) ↦ wire` is a bijection from 8 × 32 onto 256. -/
structure WireBij (f : Nat → Nat → Outcome String Nat) : Prop where
  total : ∀ b c, b < 8 → c < 32 → ∃ w, w < 256 ∧ f b c = .ok w
  inj : ∀ b c b' c' w, b < 8 → c < 32 → b' < 8 → c' < 32 →
    f b c = .ok w → f b' c' = .ok w → b = b' ∧ c = c'
  surj : ∀ w, w < 256 → ∃ b c, b < 8 ∧ c < 32 ∧ f b c = .ok w

/-- The closed form the bijection rests on: preamp `preOf (2b + chanOf c / 16)` times 16 plus
`chanOf c % 16`, with `preOf` a permutation of the 16 preamps and `chanOf` one of the 32 channels for a
checked pair of tables. -/
theorem wireCore_eq (rows : List (String × Nat × Nat)) (chans : List Nat)
    (h : wireTablesOk rows chans = true) (b c : Nat) (hb : b < 8) (hc : c < 32) :
    wireCore rows chans b c
      = .ok (preOf rows (2 * b + chanOf chans c / 16) * 16 + chanOf chans c % 16) := by
  simp only [wireTablesOk, Bool.and_eq_true, List.all_eq_true, List.mem_range,
    decide_eq_true_eq] at h
  obtain ⟨⟨⟨⟨h1, h2⟩, _⟩, h4⟩, h5⟩ := h
  have hm : chans.getD c 0 < 32 := (permCheck_sound h5).range c hc
  have hn : (preampLookup rows b).isNone = false := by rw [← Option.not_isSome, h2 b hb]; rfl
  unfold wireCore
  rw [need_eq h1, hn, if_neg (by simp), need_eq (decide_eq_true (by omega)),
    need_eq (decide_eq_true (by omega))]
  unfold preOf chanOf
  rw [show (2 * b + chans.getD c 0 / 16) / 2 = b by omega]
  congr 1
  split <;> split <;> omega

theorem wireBij_of_ok (rows : List (String × Nat × Nat)) (chans : List Nat)
    (h : wireTablesOk rows chans = true) : WireBij (wireCore rows chans) := by
  have h' := h
  simp only [wireTablesOk, Bool.and_eq_true] at h'
  obtain ⟨⟨⟨_, h3⟩, _⟩, h5⟩ := h'
  have P := permCheck_sound h3
  have C := permCheck_sound h5
  refine ⟨?_, ?_, ?_⟩
  · intro b c hb hc
    refine ⟨_, ?_, wireCore_eq rows chans h b c hb hc⟩
    have hm := C.range c hc
    have hp := P.range (2 * b + chanOf chans c / 16) (by omega)
    omega
  · intro b c b' c' w hb hc hb' hc' e e'
    rw [wireCore_eq rows chans h b c hb hc, ok_eq_ok] at e
    rw [wireCore_eq rows chans h b' c' hb' hc', ok_eq_ok] at e'
    have hm := C.range c hc
    have hm' := C.range c' hc'
    have hk : preOf rows (2 * b + chanOf chans c / 16) = preOf rows (2 * b' + chanOf chans c' / 16) := by
      omega
    have hk' := P.inj _ _ (by omega) (by omega) hk
    have hmm : chanOf chans c = chanOf chans c' := by omega
    exact ⟨by omega, C.inj _ _ hc hc' hmm⟩
  · intro w hw
    obtain ⟨k, hk, ek⟩ := P.surj (w / 16) (by omega)
    obtain ⟨c, hc, ec⟩ := C.surj (k % 2 * 16 + w % 16) (by omega)
    refine ⟨k / 2, c, by omega, hc, ?_⟩
    rw [wireCore_eq rows chans h (k / 2) c (by omega) hc, ec]
    have e1 : 2 * (k / 2) + (k % 2 * 16 + w % 16) / 16 = k := by omega
    have e2 : (k % 2 * 16 + w % 16) % 16 = w % 16 := by omega
    rw [e1, e2, ek, ok_eq_ok]
    omega

/-- Board (row of `PADWING_BOARDS`) in cell `k = column * 8 + row` of a table. -/
def pwbAt (t : List (List String)) (k : Nat) : Option Nat := pwbBoardIdx ((pwbFlat t).getD k "")

/-- Kernel-evaluated validity of one `PADWING_BOARDS_*` table: every name resolves, 8 × 8, the
board in every cell is looked up to that cell, and every board that is looked up anywhere sits
in the cell it is looked up to. -/
def pwbTableOk (t : List (List String)) : Bool :=
  pwbCellsResolve t
    && (decide (t.length ≤ tpcPwbColumns) && t.all (fun col => decide (col.length ≤ tpcPwbRows)))
    && (List.range 64).all (fun k =>
        match pwbAt t k with
        | some b => decide (b < padwingBoards.length) && (pwbLookup t b == some (k / 8, k % 8))
        | none => false)
    && (List.range padwingBoards.length).all (fun b =>
        match pwbLookup t b with
        | none => true
        | some p => decide (p.1 < 8) && decide (p.2 < 8) && (pwbAt t (p.1 * 8 + p.2) == some b))

/-- `board ↦ (column, row)` is a bijection from the installed boards onto 8 × 8. `range` and `inj`
speak of the rows of `PADWING_BOARDS` only, which is all `pwbTableOk` looks up (and all a `BoardId`
can be); `noPanic` needs no bound. -/
structure PwbBij (g : Nat → Outcome String (Nat × Nat)) (nBoards : Nat) : Prop where
  noPanic : ∀ b, NoPanic (g b)
  range : ∀ b p, b < nBoards → g b = .ok p → p.1 < 8 ∧ p.2 < 8
  inj : ∀ b b' p, b < nBoards → b' < nBoards → g b = .ok p → g b' = .ok p → b = b'
  surj : ∀ c r, c < 8 → r < 8 → ∃ b, b < nBoards ∧ g b = .ok (c, r)

theorem pwbCore_ok_iff (t : List (List String)) (h : pwbTableOk t = true) (b : Nat) (p : Nat × Nat) :
    pwbCore t b = .ok p ↔ pwbLookup t b = some p := by
  simp only [pwbTableOk, Bool.and_eq_true] at h
  obtain ⟨⟨⟨h1, h2⟩, _⟩, _⟩ := h
  unfold pwbCore
  rw [need_eq h1, need_eq (by simpa using h2)]
  cases hx : pwbLookup t b with
  | none => simp
  | some q => simp

theorem pwbBij_of_ok (t : List (List String)) (h : pwbTableOk t = true) :
    PwbBij (pwbCore t) padwingBoards.length := by
  have h' := h
  simp only [pwbTableOk, Bool.and_eq_true, List.all_eq_true, List.mem_range] at h'
  obtain ⟨⟨⟨h1, h2⟩, h3⟩, h4⟩ := h'
  have cell : ∀ b p, b < padwingBoards.length → pwbCore t b = .ok p →
      p.1 < 8 ∧ p.2 < 8 ∧ pwbAt t (p.1 * 8 + p.2) = some b := by
    intro b p hb e
    have := h4 b hb
    rw [(pwbCore_ok_iff t h b p).1 e] at this
    simpa only [Bool.and_eq_true, decide_eq_true_eq, beq_iff_eq, and_assoc] using this
  refine ⟨?_, fun b p hb e => ⟨(cell b p hb e).1, (cell b p hb e).2.1⟩, ?_, ?_⟩
  · intro b
    unfold pwbCore
    rw [need_eq h1, need_eq (by simpa [List.all_eq_true] using h2)]
    apply noPanic_ite_err; intro _; exact noPanic_ok _
  · intro b b' p hb hb' e e'
    exact Option.some.inj ((cell b p hb e).2.2.symm.trans (cell b' p hb' e').2.2)
  · intro c r hc hr
    have := h3 (c * 8 + r) (by omega)
    split at this
    · rename_i b hx
      simp only [Bool.and_eq_true, decide_eq_true_eq, beq_iff_eq] at this
      refine ⟨b, this.1, ?_⟩
      rw [pwbCore_ok_iff t h, this.2]
      congr 2 <;> omega
    · cases this

/-- Pad `(chip, channel)` number `i = chip * 72 + (channel - 1)` ↦ `column * 72 + row`
(288 when the entry is not a position inside 4 × 72). -/
def padEnc (i : Nat) : Nat :=
  match padEntry (i / 72) (i % 72 + 1) with
  | .ok p => if p.1 < 4 ∧ p.2 < 72 then p.1 * 72 + p.2 else 288
  | _ => 288

/-- Kernel-evaluated validity of the `INV_PADS_0` construction. `padInitOk` has the bounds of the
initialiser's loops inside the id ranges (no id `unwrap` panics); the three equalities add that
the loops cover the ranges, so that `get(..).unwrap()` finds every (chip, channel) (`padInPwb_eq`). -/
def padOk : Bool :=
  padInitOk && decide (padAfterMax = 3) && decide (padChannelLo = 1) && decide (padChannelHi = 72)
    && permCheck padEnc 288

/-- `(chip, pad channel) ↦ (column, row)` is a bijection from 4 × {1..72} onto 4 × 72. -/
structure PadBij (g : Nat → Nat → Outcome String (Nat × Nat)) : Prop where
  total : ∀ chip ch, chip < 4 → 1 ≤ ch → ch ≤ 72 → ∃ p, p.1 < 4 ∧ p.2 < 72 ∧ g chip ch = .ok p
  inj : ∀ chip ch chip' ch' p, chip < 4 → 1 ≤ ch → ch ≤ 72 → chip' < 4 → 1 ≤ ch' → ch' ≤ 72 →
    g chip ch = .ok p → g chip' ch' = .ok p → chip = chip' ∧ ch = ch'
  surj : ∀ c r, c < 4 → r < 72 → ∃ chip ch, chip < 4 ∧ 1 ≤ ch ∧ ch ≤ 72 ∧ g chip ch = .ok (c, r)

theorem padEnc_lt (i : Nat) (h : padEnc i < 288) :
    ∃ p, padEntry (i / 72) (i % 72 + 1) = .ok p ∧ p.1 < 4 ∧ p.2 < 72 ∧ padEnc i = p.1 * 72 + p.2 := by
  unfold padEnc at h ⊢
  cases hx : padEntry (i / 72) (i % 72 + 1) with
  | ok p =>
    rw [hx] at h
    simp only at h ⊢
    by_cases hp : p.1 < 4 ∧ p.2 < 72
    · rw [if_pos hp]; exact ⟨p, rfl, hp.1, hp.2, rfl⟩
    · rw [if_neg hp] at h; omega
  | err e => rw [hx] at h; simp at h
  | panic s => rw [hx] at h; simp at h

theorem padInPwb_eq (h : padOk = true) (chip ch : Nat) (h1 : chip < 4) (h2 : 1 ≤ ch) (h3 : ch ≤ 72) :
    padInPwb chip ch = padEntry chip ch := by
  simp only [padOk, Bool.and_eq_true, decide_eq_true_eq] at h
  obtain ⟨⟨⟨⟨i1, i2⟩, i3⟩, i4⟩, _⟩ := h
  unfold padInPwb
  rw [need_eq i1, need_eq]
  simp only [i2, i3, i4, Bool.and_eq_true, decide_eq_true_eq]
  omega

theorem padEntry_of_bij (B : BijBelow padEnc 288) (chip ch : Nat) (h1 : chip < 4) (h2 : 1 ≤ ch)
    (h3 : ch ≤ 72) : ∃ p, padEntry chip ch = .ok p ∧ p.1 < 4 ∧ p.2 < 72
      ∧ padEnc (chip * 72 + (ch - 1)) = p.1 * 72 + p.2 := by
  obtain ⟨p, e, r⟩ := padEnc_lt (chip * 72 + (ch - 1)) (B.range _ (by omega))
  rw [show (chip * 72 + (ch - 1)) / 72 = chip by omega,
    show (chip * 72 + (ch - 1)) % 72 + 1 = ch by omega] at e
  exact ⟨p, e, r⟩

theorem padBij_of_ok (h : padOk = true) : PadBij padInPwb := by
  have h' := h
  simp only [padOk, Bool.and_eq_true] at h'
  have B := permCheck_sound h'.2
  refine ⟨?_, ?_, ?_⟩
  · intro chip ch h1 h2 h3
    obtain ⟨p, e, p1, p2, _⟩ := padEntry_of_bij B chip ch h1 h2 h3
    exact ⟨p, p1, p2, by rw [padInPwb_eq h chip ch h1 h2 h3, e]⟩
  · intro chip ch chip' ch' p h1 h2 h3 h1' h2' h3' e e'
    obtain ⟨q, f, _, _, v⟩ := padEntry_of_bij B chip ch h1 h2 h3
    obtain ⟨q', f', _, _, v'⟩ := padEntry_of_bij B chip' ch' h1' h2' h3'
    rw [padInPwb_eq h chip ch h1 h2 h3, f, ok_eq_ok] at e
    rw [padInPwb_eq h chip' ch' h1' h2' h3', f', ok_eq_ok] at e'
    subst e; subst e'
    have := B.inj _ _ (by omega) (by omega) (v.trans v'.symm)
    omega
  · intro c r hc hr
    obtain ⟨i, hi, ei⟩ := B.surj (c * 72 + r) (by omega)
    obtain ⟨p, e, p1, p2, v⟩ := padEnc_lt i (by omega)
    refine ⟨i / 72, i % 72 + 1, by omega, by omega, by omega, ?_⟩
    rw [padInPwb_eq h _ _ (by omega) (by omega) (by omega), e, ok_eq_ok]
    exact Prod.ext (by simp only; omega) (by simp only; omega)

/-- `(board, chip, pad channel) ↦ (column, row)` is a bijection from (installed boards) × 4 ×
{1..72} onto 32 × 576 = 18 432 pads; a board that is not installed gives an error for every
pad; nothing panics. -/
structure TpcPadBij (f : Nat → Nat → Nat → Outcome String (Nat × Nat))
    (installed : Nat → Prop) (nBoards : Nat) : Prop where
  total : ∀ b chip ch, b < nBoards → installed b → chip < 4 → 1 ≤ ch → ch ≤ 72 →
    ∃ p, p.1 < 32 ∧ p.2 < 576 ∧ f b chip ch = .ok p
  notInstalled : ∀ b chip ch, b < nBoards → ¬ installed b → ∃ e, f b chip ch = .err e
  inj : ∀ b chip ch b' chip' ch' p, b < nBoards → chip < 4 → 1 ≤ ch → ch ≤ 72 →
    b' < nBoards → chip' < 4 → 1 ≤ ch' → ch' ≤ 72 →
    f b chip ch = .ok p → f b' chip' ch' = .ok p → b = b' ∧ chip = chip' ∧ ch = ch'
  surj : ∀ c r, c < 32 → r < 576 → ∃ b chip ch, b < nBoards ∧ installed b ∧ chip < 4 ∧ 1 ≤ ch ∧
    ch ≤ 72 ∧ f b chip ch = .ok (c, r)

theorem padCombine_eq (bp pp : Nat × Nat) (h1 : bp.1 < 8) (h2 : bp.2 < 8) (h3 : pp.1 < 4)
    (h4 : pp.2 < 72) : padCombine bp pp = .ok (bp.1 * 4 + pp.1, bp.2 * 72 + pp.2) := by
  unfold padCombine
  have c1 : pwbPadColumns = 4 := rfl
  have c2 : pwbPadRows = 72 := rfl
  have c3 : tpcPadColumns = 32 := rfl
  have c4 : tpcPadRows = 576 := rfl
  rw [need_eq (by simp only [c1, c3, decide_eq_true_eq]; omega),
    need_eq (by simp only [c2, c4, decide_eq_true_eq]; omega), c1, c2]

/-- A pad position decodes: column and row divided by the 4 × 72 pads of a board give the board's
position, the remainders the pad within the board. -/
theorem padCompose_ok_iff {g : Nat → Outcome String (Nat × Nat)} {n : Nat} (G : PwbBij g n)
    (P : PadBij padInPwb) (b chip ch : Nat) (hb : b < n) (h1 : chip < 4) (h2 : 1 ≤ ch) (h3 : ch ≤ 72)
    (p : Nat × Nat) :
    padCompose g b chip ch = .ok p ↔
      g b = .ok (p.1 / 4, p.2 / 72) ∧ padInPwb chip ch = .ok (p.1 % 4, p.2 % 72) := by
  obtain ⟨pp, p1, p2, e2⟩ := P.total chip ch h1 h2 h3
  unfold padCompose
  rw [e2]
  cases hx : g b with
  | err x => simp
  | panic s => simp
  | ok bp =>
    obtain ⟨b1, b2⟩ := G.range b bp hb hx
    simp only [padCombine_eq bp pp b1 b2 p1 p2, ok_eq_ok, Prod.ext_iff]
    omega

theorem tpcPadBij_of (g : Nat → Outcome String (Nat × Nat)) (n : Nat) (G : PwbBij g n)
    (P : PadBij padInPwb) : TpcPadBij (padCompose g) (fun b => ∃ p, g b = .ok p) n := by
  refine ⟨?_, ?_, ?_, ?_⟩
  · intro b chip ch hb ⟨bp, e1⟩ h1 h2 h3
    obtain ⟨pp, p1, p2, e2⟩ := P.total chip ch h1 h2 h3
    obtain ⟨b1, b2⟩ := G.range b bp hb e1
    refine ⟨(bp.1 * 4 + pp.1, bp.2 * 72 + pp.2), by simp only; omega, by simp only; omega, ?_⟩
    unfold padCompose
    rw [e1, e2]
    exact padCombine_eq bp pp b1 b2 p1 p2
  · intro b chip ch _ hni
    cases hx : g b with
    | ok bp => exact absurd ⟨bp, hx⟩ hni
    | err e => exact ⟨e, by simp only [padCompose, hx]⟩
    | panic s => exact absurd hx (G.noPanic b s)
  · intro b chip ch b' chip' ch' p hb h1 h2 h3 hb' h1' h2' h3' e e'
    rw [padCompose_ok_iff G P _ _ _ hb h1 h2 h3] at e
    rw [padCompose_ok_iff G P _ _ _ hb' h1' h2' h3'] at e'
    exact ⟨G.inj b b' _ hb hb' e.1 e'.1, P.inj chip ch chip' ch' _ h1 h2 h3 h1' h2' h3' e.2 e'.2⟩
  · intro c r hc hr
    obtain ⟨b, hb, e1⟩ := G.surj (c / 4) (r / 72) (by omega) (by omega)
    obtain ⟨chip, ch, h1, h2, h3, e2⟩ := P.surj (c % 4) (r % 72) (by omega) (by omega)
    exact ⟨b, chip, ch, hb, ⟨_, e1⟩, h1, h2, h3, (padCompose_ok_iff G P _ _ _ hb h1 h2 h3 _).2 ⟨e1, e2⟩⟩

end AlphaG.Maps
