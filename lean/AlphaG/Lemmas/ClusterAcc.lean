import AlphaG.Lemmas.ClusterList
/-
The accumulator in two layers.
1. Without counting: under `WF` (keys distinct; in `dense` mode key = position) `Acc` is a finite
   map `bucket : bin → List point`; `addBin` appends to one bucket (`addBin_spec`), `removeBin`
   swap-removes from one bucket and its two `unwrap`s are safe when the bucket holds a point `==`
   to the one removed (`removeBin_spec`).
2. The invariant of DESIGN.md section 12 is then a statement about `bucket` alone: every bucket
   holds, modulo `==`, exactly the points of the current multiset that vote for its bin. The
   multiset is represented by its multiplicity function `m : point → Nat`.
Core Lean only.
-/
namespace AlphaG.Cluster

structure Acc.WF (acc : Acc) : Prop where
  dense_ok : acc.dense = true → ∀ i (h : i < acc.entries.size), acc.entries[i].1 = i
  keys_inj : ∀ i j (hi : i < acc.entries.size) (hj : j < acc.entries.size),
    acc.entries[i].1 = acc.entries[j].1 → i = j

/-- `IndexMap::get(&b)`, with `[]` for an absent key. -/
def Acc.bucket (acc : Acc) (b : Nat) : List Nat :=
  match findKey acc b with
  | some i => (acc.entries[i]!).2
  | none => []

/-- Both lookup paths return the position of the key. -/
theorem findKey_spec {acc : Acc} (wf : acc.WF) {b i : Nat} :
    findKey acc b = some i ↔ ∃ hi : i < acc.entries.size, acc.entries[i].1 = b := by
  unfold findKey
  by_cases hd : acc.dense = true
  · rw [if_pos hd]
    constructor
    · intro h
      split at h
      · cases h; exact ⟨‹_›, wf.dense_ok hd _ _⟩
      · cases h
    · rintro ⟨hi, rfl⟩
      rw [wf.dense_ok hd i hi, if_pos hi]
  · rw [if_neg hd, List.findIdx?_eq_some_iff_getElem]
    simp only [Array.length_toList, Array.getElem_toList, beq_iff_eq]
    refine exists_congr fun hi => and_iff_left_of_imp fun hb j hj hjb => ?_
    exact absurd (wf.keys_inj j i (by omega) hi (hjb.trans hb.symm)) (by omega)

theorem findKey_eq_none {acc : Acc} (wf : acc.WF) {b : Nat} :
    findKey acc b = none ↔ ∀ i (hi : i < acc.entries.size), acc.entries[i].1 ≠ b := by
  rw [Option.eq_none_iff_forall_ne_some]
  exact ⟨fun h i hi hb => h i ((findKey_spec wf).2 ⟨hi, hb⟩),
    fun h i hf => have ⟨hi, hb⟩ := (findKey_spec wf).1 hf; h i hi hb⟩

theorem bucket_key {acc : Acc} (wf : acc.WF) {i : Nat} (hi : i < acc.entries.size) :
    acc.bucket acc.entries[i].1 = acc.entries[i].2 := by
  rw [Acc.bucket, (findKey_spec wf).2 ⟨hi, rfl⟩]
  exact congrArg Prod.snd (getElem!_pos acc.entries i hi)

theorem bucket_absent {acc : Acc} (wf : acc.WF) {b : Nat}
    (h : ∀ i (hi : i < acc.entries.size), acc.entries[i].1 ≠ b) : acc.bucket b = [] := by
  rw [Acc.bucket, (findKey_eq_none wf).2 h]

/-- `bucket` is the only function that agrees with the entries and is `[]` off the keys. -/
theorem bucket_ext {acc : Acc} (wf : acc.WF) {f : Nat → List Nat}
    (hkey : ∀ i (hi : i < acc.entries.size), f acc.entries[i].1 = acc.entries[i].2)
    (habs : ∀ b, (∀ i (hi : i < acc.entries.size), acc.entries[i].1 ≠ b) → f b = []) (b : Nat) :
    acc.bucket b = f b := by
  cases h : findKey acc b with
  | some i => obtain ⟨hi, rfl⟩ := (findKey_spec wf).1 h; rw [bucket_key wf hi, hkey]
  | none => have hb := (findKey_eq_none wf).1 h; rw [bucket_absent wf hb, habs b hb]

/- In `modify_spec` and `push_spec` the new accumulator is a variable `acc'` with its defining
equation as a hypothesis (callers pass `rfl`), so that the conclusion names it once. -/
theorem modify_spec {acc acc' : Acc} (wf : acc.WF) {i : Nat} (hi : i < acc.entries.size)
    (g : List Nat → List Nat)
    (h' : acc' = ⟨acc.entries.modify i (fun e => (e.1, g e.2)), acc.dense⟩) :
    acc'.WF ∧ ∀ b, acc'.bucket b =
      if b = acc.entries[i].1 then g acc.entries[i].2 else acc.bucket b := by
  subst h'
  let acc' : Acc := ⟨acc.entries.modify i (fun e => (e.1, g e.2)), acc.dense⟩
  have sz : acc'.entries.size = acc.entries.size := Array.size_modify
  have get : ∀ j (hj : j < acc.entries.size), acc'.entries[j]'(sz ▸ hj) =
      if i = j then (acc.entries[j].1, g acc.entries[j].2) else acc.entries[j] :=
    fun j hj => Array.getElem_modify _
  have key : ∀ j (hj : j < acc.entries.size), (acc'.entries[j]'(sz ▸ hj)).1 = acc.entries[j].1 :=
    fun j hj => by rw [get j hj]; split <;> rfl
  have wf' : acc'.WF :=
    ⟨fun hd j hj => (key j (sz ▸ hj)).trans (wf.dense_ok hd j (sz ▸ hj)),
     fun j k hj hk h => wf.keys_inj j k (sz ▸ hj) (sz ▸ hk) (by rwa [key, key] at h)⟩
  refine ⟨wf', bucket_ext wf' (fun j hj => ?_) fun b hb => ?_⟩
  · have hj : j < acc.entries.size := sz ▸ hj
    rw [key j hj, get j hj]
    by_cases hij : i = j
    · subst hij; rw [if_pos rfl, if_pos rfl]
    · rw [if_neg hij, if_neg fun h => hij (wf.keys_inj j i hj hi h).symm, bucket_key wf hj]
  · have hb : ∀ j (hj : j < acc.entries.size), acc.entries[j].1 ≠ b :=
      fun j hj => key j hj ▸ hb j (sz ▸ hj)
    rw [if_neg (hb i hi).symm, bucket_absent wf hb]

theorem push_spec {acc acc' : Acc} (wf : acc.WF) {b : Nat}
    (hnew : ∀ i (hi : i < acc.entries.size), acc.entries[i].1 ≠ b) (v : List Nat)
    (h' : acc' = ⟨acc.entries.push (b, v), acc.dense && b == acc.entries.size⟩) :
    acc'.WF ∧ ∀ b', acc'.bucket b' = if b' = b then v else acc.bucket b' := by
  subst h'
  let acc' : Acc := ⟨acc.entries.push (b, v), acc.dense && b == acc.entries.size⟩
  have sz : acc'.entries.size = acc.entries.size + 1 := Array.size_push _
  have get : ∀ j (hj : j < acc'.entries.size), acc'.entries[j] =
      if h : j < acc.entries.size then acc.entries[j] else (b, v) := fun j hj => Array.getElem_push hj
  have wf' : acc'.WF := by
    constructor
    · intro hd j hj
      rw [Bool.and_eq_true, beq_iff_eq] at hd
      rw [get]; split
      · exact wf.dense_ok hd.1 j _
      · exact hd.2.trans (by omega)
    · intro j k hj hk h
      rw [get, get] at h
      split at h <;> split at h
      · exact wf.keys_inj j k _ _ h
      · exact absurd h (hnew j _)
      · exact absurd h.symm (hnew k _)
      · omega
  refine ⟨wf', bucket_ext wf' (fun j hj => ?_) fun b' hb' => ?_⟩
  · rw [get]; split
    · rw [if_neg (hnew j _), bucket_key wf]
    · exact if_pos rfl
  · have hb : ∀ j (hj : j < acc.entries.size), acc.entries[j].1 ≠ b' := fun j hj => by
      have := hb' j (by omega); rwa [get, dif_pos hj] at this
    have := hb' acc.entries.size (by omega)
    rw [get, dif_neg (Nat.lt_irrefl _)] at this
    rw [if_neg (Ne.symm this), bucket_absent wf hb]

theorem wf_empty : Acc.empty.WF :=
  ⟨fun _ i h => absurd h (Nat.not_lt_zero i), fun i _ h => absurd h (Nat.not_lt_zero i)⟩

theorem bucket_empty (b : Nat) : Acc.empty.bucket b = [] := rfl

/-- `entry(b).or_default().push(p)`. -/
theorem addBin_spec {acc : Acc} (wf : acc.WF) (b p : Nat) :
    (addBin acc b p).WF ∧ ∀ b', (addBin acc b p).bucket b' =
      if b' = b then acc.bucket b ++ [p] else acc.bucket b' := by
  unfold addBin
  cases hk : findKey acc b with
  | some i =>
    obtain ⟨hi, rfl⟩ := (findKey_spec wf).1 hk
    rw [bucket_key wf hi]
    exact modify_spec wf hi (· ++ [p]) rfl
  | none =>
    have hnew := (findKey_eq_none wf).1 hk
    rw [bucket_absent wf hnew]
    exact push_spec wf hnew [p] rfl

/-- `get_mut(&b).unwrap()`, `position(..).unwrap()`, `swap_remove`: both `unwrap`s are safe when
the bucket of `b` holds a point `==` to `p`. -/
theorem removeBin_spec (ctx : Ctx) {acc : Acc} (wf : acc.WF) {b p pos : Nat}
    (h : position (fun q => ctx.eq q p) (acc.bucket b) = some pos) :
    ∃ acc', removeBin ctx acc b p = .ok acc' ∧ acc'.WF ∧ ∀ b', acc'.bucket b' =
      if b' = b then swapRemove (acc.bucket b) pos else acc.bucket b' := by
  cases hk : findKey acc b with
  | none => rw [Acc.bucket, hk] at h; cases h
  | some i =>
    obtain ⟨hi, rfl⟩ := (findKey_spec wf).1 hk
    rw [bucket_key wf hi] at h ⊢
    refine ⟨_, ?_, modify_spec wf hi (swapRemove · pos) rfl⟩
    rw [removeBin, hk]
    dsimp only
    rw [getElem!_pos acc.entries i hi, h]

theorem mostPopular_eq {acc : Acc} (wf : acc.WF) :
    mostPopular acc = [] ∨ ∃ b, mostPopular acc = acc.bucket b := by
  unfold mostPopular
  cases h : lastMaxBy (fun e : Nat × List Nat => e.2.length) acc.entries.toList with
  | none => exact .inl rfl
  | some e =>
    obtain ⟨i, hi, rfl⟩ := Array.getElem_of_mem (Array.mem_toList_iff.1 (lastMaxBy_mem h))
    exact .inr ⟨_, (bucket_key wf hi).symm⟩

theorem addBins_spec (p : Nat) (bs : List Nat) {acc : Acc} (wf : acc.WF) (hnd : bs.Nodup) :
    (addBins p bs acc).WF ∧ ∀ b, (addBins p bs acc).bucket b =
      acc.bucket b ++ if b ∈ bs then [p] else [] := by
  induction bs generalizing acc with
  | nil => exact ⟨wf, fun b => by simp [addBins]⟩
  | cons a bs ih =>
    rw [List.nodup_cons] at hnd
    obtain ⟨wf1, h1⟩ := addBin_spec wf a p
    obtain ⟨wf2, h2⟩ := ih wf1 hnd.2
    refine ⟨wf2, fun b => ?_⟩
    rw [addBins, h2, h1]
    by_cases hb : b = a
    · subst hb; simp [hnd.1]
    · simp [hb]

theorem removeBins_spec {ctx : Ctx} (g : ctx.Good) (p : Nat) (bs : List Nat) {acc : Acc}
    (wf : acc.WF) (hnd : bs.Nodup) (hpos : ∀ b ∈ bs, 0 < cnt ctx p (acc.bucket b)) :
    ∃ acc', removeBins ctx p bs acc = .ok acc' ∧ acc'.WF ∧ ∀ b x,
      cnt ctx x (acc'.bucket b) + (if b ∈ bs then ind ctx x p else 0)
        = cnt ctx x (acc.bucket b) := by
  induction bs generalizing acc with
  | nil => exact ⟨acc, rfl, wf, fun b x => rfl⟩
  | cons a bs ih =>
    rw [List.nodup_cons] at hnd
    cases hp : position (fun q => ctx.eq q p) (acc.bucket a) with
    | none => exact absurd hp (position_ne_none g (hpos a List.mem_cons_self))
    | some pos =>
      obtain ⟨acc1, h1, wf1, b1⟩ := removeBin_spec ctx wf hp
      obtain ⟨acc2, h2, wf2, b2⟩ := ih wf1 hnd.2 fun b hb => by
        rw [b1, if_neg fun h : b = a => hnd.1 (h ▸ hb)]; exact hpos b (List.mem_cons_of_mem _ hb)
      refine ⟨acc2, by rw [removeBins, h1]; exact h2, wf2, fun b x => ?_⟩
      have := b2 b x
      rw [b1] at this
      by_cases hb : b = a
      · subst hb
        have hc := cnt_swapRemove_position g hp x
        rw [if_pos rfl, if_neg hnd.1] at this
        rw [if_pos List.mem_cons_self]
        omega
      · simpa [hb] using this

/-- Every bucket holds, modulo `==`, the points of the current multiset `m` that vote for its
bin. -/
structure InvC (ctx : Ctx) (acc : Acc) (m : Nat → Nat) : Prop where
  wf : acc.WF
  buckets : ∀ b x, cnt ctx x (acc.bucket b) = if b ∈ ctx.bins x then m x else 0

theorem InvC.congr {ctx : Ctx} {acc : Acc} {m m' : Nat → Nat} (inv : InvC ctx acc m)
    (h : ∀ x, m x = m' x) : InvC ctx acc m' :=
  (funext h : m = m') ▸ inv

theorem InvC.empty (ctx : Ctx) : InvC ctx Acc.empty (fun _ => 0) :=
  ⟨wf_empty, fun b x => by simp [bucket_empty]⟩

/-- `ind ctx x p` vanishes unless `x == p`, and then `x` and `p` vote alike. -/
theorem ite_bins_ind {ctx : Ctx} (g : ctx.Good) (b x p : Nat) :
    (if b ∈ ctx.bins p then ind ctx x p else 0) = if b ∈ ctx.bins x then ind ctx x p else 0 := by
  by_cases hxp : ctx.eq x p = true
  · simp only [g.bins_eq x p hxp b]
  · simp [ind, hxp]

theorem cnt_ite_singleton (ctx : Ctx) (x p : Nat) (c : Prop) [Decidable c] :
    cnt ctx x (if c then [p] else []) = if c then ind ctx x p else 0 := by
  split
  · rw [cnt_cons, cnt_nil, Nat.zero_add]
  · rfl

theorem add_inv {ctx : Ctx} (g : ctx.Good) {acc : Acc} {m : Nat → Nat} (inv : InvC ctx acc m)
    (p : Nat) : InvC ctx (add ctx acc p) (fun x => m x + ind ctx x p) := by
  obtain ⟨wf', h⟩ := addBins_spec p (ctx.bins p) inv.wf (g.bins_nodup p)
  refine ⟨wf', fun b x => ?_⟩
  rw [add, h, cnt_append, inv.buckets, cnt_ite_singleton, ite_bins_ind g]
  split <;> rfl

theorem remove_inv {ctx : Ctx} (g : ctx.Good) {acc : Acc} {m : Nat → Nat} (inv : InvC ctx acc m)
    {p : Nat} (hp : 0 < m p) :
    ∃ acc', remove ctx acc p = .ok acc' ∧ InvC ctx acc' (fun x => m x - ind ctx x p) := by
  obtain ⟨acc', h1, wf', h⟩ := removeBins_spec g p (ctx.bins p) inv.wf (g.bins_nodup p)
    fun b hb => by rw [inv.buckets, if_pos hb]; exact hp
  refine ⟨acc', h1, wf', fun b x => ?_⟩
  have := h b x
  rw [inv.buckets, ite_bins_ind g b x p] at this
  by_cases hb : b ∈ ctx.bins x
  · simp only [if_pos hb] at this ⊢; omega
  · simp only [if_neg hb] at this ⊢; omega

theorem addAll_inv {ctx : Ctx} (g : ctx.Good) (l : List Nat) {acc : Acc} {m : Nat → Nat}
    (inv : InvC ctx acc m) : InvC ctx (addAll ctx l acc) (fun x => m x + cnt ctx x l) := by
  induction l generalizing acc m with
  | nil => exact inv
  | cons p l ih => exact (ih (add_inv g inv p)).congr fun x => by rw [cnt_cons]; omega

theorem removeAll_inv {ctx : Ctx} (g : ctx.Good) (l : List Nat) {acc : Acc} {m : Nat → Nat}
    (inv : InvC ctx acc m) (hle : ∀ x, cnt ctx x l ≤ m x) :
    ∃ acc', removeAll ctx l acc = .ok acc' ∧ InvC ctx acc' (fun x => m x - cnt ctx x l) := by
  induction l generalizing acc m with
  | nil => exact ⟨acc, rfl, inv⟩
  | cons p l ih =>
    obtain ⟨acc1, h1, inv1⟩ := remove_inv g inv
      (Nat.lt_of_lt_of_le (cnt_self_pos g List.mem_cons_self) (hle p))
    obtain ⟨acc2, h2, inv2⟩ := ih inv1 fun x => by have := hle x; rw [cnt_cons] at this; omega
    exact ⟨acc2, by rw [removeAll, h1]; exact h2, inv2.congr fun x => by rw [cnt_cons]; omega⟩

theorem mostPopular_le {ctx : Ctx} {acc : Acc} {m : Nat → Nat} (inv : InvC ctx acc m) (x : Nat) :
    cnt ctx x (mostPopular acc) ≤ m x := by
  obtain h | ⟨b, h⟩ := mostPopular_eq inv.wf <;> rw [h]
  · exact Nat.zero_le _
  · rw [inv.buckets]; split <;> omega

end AlphaG.Cluster
