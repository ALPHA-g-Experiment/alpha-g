import AlphaG.Lemmas.Chronobox
/-
The combinator-level transcription `Raw.chronoboxFifo` (winnow semantics: backtracking,
checkpoints, the "parsers must always consume" assertions, the final `unwrap`) computes exactly
the direct recursion `parse`; in particular it never reaches the `unwrap` panic nor an assertion.
Core Lean only.
-/
namespace AlphaG.Chronobox.Raw
open AlphaG AlphaG.Chronobox

theorem leUint3_cons (b0 b1 b2 : UInt8) (rest : List UInt8) :
    leUint 3 (b0 :: b1 :: b2 :: rest) = .ok (u24 b0 b1 b2) 3 := by
  simp [leUint, map, take, leAt, byteAt, u24]; omega

theorem fifoEntry_cons (b0 b1 b2 b3 : UInt8) (rest : List UInt8) :
    fifoEntry (b0 :: b1 :: b2 :: b3 :: rest)
      = match (classify b0 b1 b2 b3).entry? with
        | some e => .ok e 4
        | none => .backtrack := by
  simp only [fifoEntry, alt, timestampCounter, wrapAroundMarker, andThen, leUint3_cons, map, tryMap,
    verify, anyU8, take, byteLit, channelId_eq, classify, List.drop_succ_cons, List.drop_zero,
    List.length_cons, List.take_succ_cons, List.take_zero, byteAt, Nat.le_add_left, if_true,
    decide_eq_true_eq, List.getD_cons_zero]
  -- both sides are now chains of `if`s on the top byte; `c3` is only ever used through
  -- `if_pos`/`if_neg`, so that it does not rewrite `b3.toNat` inside the mask tests
  by_cases c1 : b3.toNat &&& 0x80 = 0x80
  · by_cases c2 : b3.toNat &&& 0x7F < numInputChannels
    · simp only [c1, c2, if_true, and_self, Word.entry?]
    · by_cases c3 : b3.toNat = 0xFF
      · simp only [c1, c2, if_pos c3, if_true, if_false, and_false, Word.entry?]
      · simp only [c1, c2, if_neg c3, if_true, if_false, and_false, Word.entry?]
  · by_cases c3 : b3.toNat = 0xFF
    · simp only [c1, if_pos c3, if_false, false_and, Word.entry?]
    · simp only [c1, if_neg c3, if_false, false_and, Word.entry?]

/-- Where `entries` stops, `fifo_entry` backtracks: the word is in neither class, or fewer than four
bytes are left (`le_u24` or the top byte is missing). -/
theorem fifoEntry_stop {l : List UInt8} (h : entries l = ([], l)) : fifoEntry l = .backtrack := by
  match l with
  | b0 :: b1 :: b2 :: b3 :: rest =>
    rw [fifoEntry_cons]
    cases hc : (classify b0 b1 b2 b3).entry? with
    | none => rfl
    | some e => rw [entries_cons_some rest hc] at h; cases h
  | [] | [_] | [_, _] | [_, _, _] =>
    simp [fifoEntry, alt, timestampCounter, wrapAroundMarker, andThen, leUint, map, take, tryMap,
      verify, anyU8, byteLit]

/-- `repeat(0.., fifo_entry)` never fails, never trips its assertion, and is `entries`. -/
theorem repeat0_fifoEntry (l : List UInt8) :
    ∃ n, repeat0 fifoEntry l = .ok (entries l).1 n ∧ l.drop n = (entries l).2 := by
  induction l using entries_induct with
  | word b0 b1 b2 b3 rest e h ih =>
    obtain ⟨m, hm, hd⟩ := ih
    refine ⟨4 + m, ?_, by rw [entries_cons_some rest h, Nat.add_comm]; exact hd⟩
    rw [repeat0, fifoEntry_cons, h, entries_cons_some rest h]
    simp [hm]
    omega
  | stop l h => exact ⟨0, by rw [repeat0, fifoEntry_stop h, h], by rw [h]; rfl⟩

theorem scalersBlock_eq (l : List UInt8) :
    scalersBlock l = if (block? l).isSome then .ok () 244 else .backtrack := by
  unfold block?
  split
  · rename_i rest
    simp only [scalersBlock, andThen, literal, take, leUint, map, numInputChannels, blockPayload,
      List.length_cons, List.length_nil, List.take_succ_cons, List.take_zero, if_true,
      List.drop_succ_cons, List.drop_zero, List.length_drop]
    by_cases h : 59 * 4 + 4 ≤ rest.length
    · simp only [h, show 59 * 4 ≤ rest.length by omega, show 4 ≤ rest.length - 59 * 4 by omega,
        if_true, Option.isSome_some]
    · by_cases h236 : 59 * 4 ≤ rest.length
      · simp only [h, h236, show ¬ 4 ≤ rest.length - 59 * 4 by omega, if_true, if_false,
          Option.isSome_none, Bool.false_eq_true]
      · simp only [h, h236, if_false, Option.isSome_none, Bool.false_eq_true]
  · rename_i hne
    have : ¬ l.take 4 = [0x3C, 0x00, 0x00, 0xFE] := fun ht =>
      hne (l.drop 4) (by have := List.take_append_drop 4 l; rw [ht] at this; exact this.symm)
    simp [scalersBlock, andThen, literal, this]

theorem sepLoop_spec (r : List UInt8) (ol : List Entry) :
    ∃ n, sepLoop (repeat0 fifoEntry) scalersBlock (fun l _ r => l ++ r) ol r
        = .ok (ol ++ (tailOf r).1) n ∧ r.drop n = (tailOf r).2 := by
  cases h1 : block? r with
  | none =>
    have ht : tailOf r = ([], r) := by rw [tailOf, h1]
    exact ⟨0, by rw [sepLoop, scalersBlock_eq, h1, ht]; simp, by rw [ht]; rfl⟩
  | some r' =>
    have ht : tailOf r = parse r' := by rw [tailOf, h1]
    have h3 := block?_drop h1
    have hlen := block?_length h1
    obtain ⟨m, hm, hdm⟩ := repeat0_fifoEntry r'
    have hle := entries_rem_le r'
    obtain ⟨j, hj, hdj⟩ := sepLoop_spec (entries r').2 (ol ++ (entries r').1)
    refine ⟨244 + m + j, ?_, ?_⟩
    · rw [sepLoop, scalersBlock_eq, h1, ht, parse_eq_tail r']
      have hne : ¬ r'.length = r.length := by omega
      simp only [Option.isSome_some, if_true, h3, hne, dite_false, hm, hdm, hj, List.append_assoc]
    · rw [← List.drop_drop, ← List.drop_drop, h3, hdm, hdj, ht, parse_eq_tail r']
termination_by r.length
decreasing_by omega

theorem fifo_eq (i : List UInt8) :
    ∃ n, fifo i = .ok (parse i).1 n ∧ i.drop n = (parse i).2 := by
  obtain ⟨n, hn, hdn⟩ := repeat0_fifoEntry i
  obtain ⟨j, hj, hdj⟩ := sepLoop_spec (entries i).2 (entries i).1
  refine ⟨n + j, ?_, ?_⟩
  · simp only [fifo, separatedFoldl1, andThen, hn, hdn, hj, parse_eq_tail i]
  · rw [← List.drop_drop, hdn, hdj, parse_eq_tail i]

/-- C01: the only `unwrap` of `chronobox_fifo` is on a parser that always succeeds, and the
"must always consume" assertions of `repeat`/`separated_foldl1` are unreachable: the call
returns `parse i`. -/
theorem chronoboxFifo_eq (i : List UInt8) : chronoboxFifo i = .ok (parse i) := by
  obtain ⟨n, hn, hd⟩ := fifo_eq i
  simp [chronoboxFifo, hn, hd]

end AlphaG.Chronobox.Raw
