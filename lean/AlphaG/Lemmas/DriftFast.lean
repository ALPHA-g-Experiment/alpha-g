import AlphaG.Lemmas.DriftCheck
/-
Fast form of the table checks of `Lemmas/DriftCheck.lean`: for doubles with sign bit 0 the value
is monotone in the bit pattern, so adjacent knots are compared as raw patterns (`Nat.ble` on
literals, which the kernel evaluates with GMP) instead of as `Int` values `dy`.
-/
namespace AlphaG.Drift

/-- Sign 0, exponent field below 2047: a finite double `≥ +0`. Bit patterns order like values
only for sign 0, so the fast checks demand it of every entry: a table with a negative or `-0.0`
entry is refused here although `checkSlice` might accept it (the shipped table has none). -/
def posFin (b : Nat) : Bool := Nat.blt b 0x7ff0000000000000

theorem lt_of_posFin {b : Nat} (h : posFin b = true) : b < 2 ^ 63 := by
  have := Nat.le_of_ble_eq_true h
  omega

theorem expField_of_lt {b : Nat} (h : b < 2 ^ 63) : expField b = b / 2 ^ 52 := by
  unfold expField; omega

theorem dy_of_lt {b : Nat} (h : b < 2 ^ 63) : dy b = dyMag b := by
  have : signField b = 0 := by unfold signField; omega
  simp [dy, this]

/-- below `2^63` the magnitude is strictly increasing in the bit pattern: the exponent field is
the leading digit, and one more in the exponent outweighs any mantissa. -/
theorem dyMag_lt {a b : Nat} (hab : a < b) (hb : b < 2 ^ 63) : dyMag a < dyMag b := by
  unfold dyMag manField
  rw [expField_of_lt hb, expField_of_lt (Nat.lt_trans hab hb)]
  have hlex : a / 2 ^ 52 < b / 2 ^ 52 ∨ a / 2 ^ 52 = b / 2 ^ 52 ∧ a % 2 ^ 52 < b % 2 ^ 52 := by omega
  have hma : a % 2 ^ 52 < 2 ^ 52 := Nat.mod_lt _ (by decide)
  generalize a / 2 ^ 52 = ea, a % 2 ^ 52 = ma, b / 2 ^ 52 = eb, b % 2 ^ 52 = mb at hlex hma ⊢
  rcases hlex with he | ⟨rfl, hm⟩
  · -- smaller exponent field: `dyMag a < 2^52 · 2^ea ≤ 2^52 · 2^(eb-1) ≤ dyMag b`
    rw [if_neg (by omega : ¬ eb = 0)]
    refine Nat.lt_of_lt_of_le ?_ (Nat.mul_le_mul (Nat.le_add_right _ mb)
      (Nat.pow_le_pow_right (by decide) (by omega : ea ≤ eb - 1)))
    split
    · next h0 => rw [h0]; simpa using hma
    · next h0 =>
      have : 2 ^ ea = 2 * 2 ^ (ea - 1) := by rw [← Nat.pow_succ']; congr 1; omega
      rw [this, ← Nat.mul_assoc]
      exact Nat.mul_lt_mul_of_pos_right (by omega) (Nat.two_pow_pos _)
  · -- same exponent field, smaller mantissa
    split
    · exact hm
    · exact Nat.mul_lt_mul_of_pos_right (by omega) (Nat.two_pow_pos _)

theorem dy_lt_of_bits {a b : Nat} (h : Nat.blt a b = true) (hb : posFin b = true) : dy a < dy b := by
  have hab : a < b := Nat.le_of_ble_eq_true h
  have hb' := lt_of_posFin hb
  rw [dy_of_lt hb', dy_of_lt (Nat.lt_trans hab hb')]
  exact Int.ofNat_lt.2 (dyMag_lt hab hb')

theorem dy_le_of_bits {a b : Nat} (h : Nat.ble a b = true) (hb : posFin b = true) : dy a ≤ dy b := by
  rcases Nat.eq_or_lt_of_le (Nat.le_of_ble_eq_true h) with rfl | hab
  · exact Int.le_refl _
  · exact Int.le_of_lt (dy_lt_of_bits (Nat.ble_eq_true_of_le hab) hb)

/-- every number of the knot is a finite double `≥ +0` -/
def posKnot (k : Nat × Nat × Nat) : Bool := posFin k.1 && posFin k.2.1 && posFin k.2.2

theorem finiteKnot_of_pos {k : Nat × Nat × Nat} (h : posKnot k = true) : finiteKnot k = true := by
  have fin : ∀ {b}, posFin b = true → finiteBits b = true := fun {b} hb => by
    have := Nat.le_of_ble_eq_true hb
    unfold finiteBits expField
    exact Bool.and_eq_true _ _ ▸ ⟨decide_eq_true (by omega), decide_eq_true (by omega)⟩
  simp only [posKnot, Bool.and_eq_true] at h
  simp only [finiteKnot, Bool.and_eq_true]
  exact ⟨⟨fin h.1.1, fin h.1.2⟩, fin h.2⟩

/-- `checkAdj` on the raw patterns -/
def fastAdj : List (Nat × Nat × Nat) → Bool
  | a :: b :: rest =>
    Nat.blt a.1 b.1 && Nat.ble b.2.1 a.2.1 && Nat.ble a.2.2 b.2.2 && fastAdj (b :: rest)
  | _ => true

theorem checkAdj_of_fast : ∀ s : List (Nat × Nat × Nat), (∀ k ∈ s, posKnot k = true) →
    fastAdj s = true → checkAdj s = true
  | [], _, _ => rfl
  | [_], _, _ => rfl
  | a :: b :: rest, hp, h => by
    have pa := hp a (by simp)
    have pb := hp b (by simp)
    simp only [posKnot, Bool.and_eq_true] at pa pb
    simp only [fastAdj, Bool.and_eq_true] at h
    simp only [checkAdj, Bool.and_eq_true, decide_eq_true_eq]
    exact ⟨⟨⟨dy_lt_of_bits h.1.1.1 pb.1.1, dy_le_of_bits h.1.1.2 pa.1.2⟩, dy_le_of_bits h.1.2 pb.2⟩,
      checkAdj_of_fast _ (fun k hk => hp k (List.mem_cons_of_mem _ hk)) h.2⟩

/-- `checkSlice` with `posKnot` for `finiteKnot` and `fastAdj` for `checkAdj` -/
def fastSlice (s : List (Nat × Nat × Nat)) : Bool :=
  decide (2 ≤ s.length) && s.all posKnot && firstCorrZero s && fastAdj s

theorem posKnot_of_fastSlice {s : List (Nat × Nat × Nat)} (h : fastSlice s = true) :
    ∀ k ∈ s, posKnot k = true := by
  simp only [fastSlice, Bool.and_eq_true, List.all_eq_true] at h
  exact h.1.1.2

theorem checkSlice_of_fast {s : List (Nat × Nat × Nat)} (h : fastSlice s = true) :
    checkSlice s = true := by
  have hp := posKnot_of_fastSlice h
  simp only [fastSlice, Bool.and_eq_true] at h
  simp only [checkSlice, Bool.and_eq_true, List.all_eq_true]
  exact ⟨⟨⟨h.1.1.1, fun k hk => finiteKnot_of_pos (hp k hk)⟩, h.1.2⟩, checkAdj_of_fast s hp h.2⟩

/-- `checkStep` in `Nat` for knots with sign 0: both inequalities of `checkStep` with the
subtractions moved across, the exception list consulted only where they fail. -/
def fastStep : List (Nat × Nat × Nat) → Nat → List Nat → Bool
  | a :: b :: rest, j, exc =>
    ((Nat.blt (dyMag a.2.1 * 16000 + dyMag a.1 * 1000000000)
              (dyMag b.1 * 1000000000 + dyMag b.2.1 * 16000)
        && Nat.blt (dyMag b.2.1 * 16000 + dyMag a.1 * 1000000000)
              (dyMag b.1 * 1000000000 + dyMag a.2.1 * 16000))
      || exc.contains j)
      && fastStep (b :: rest) (j + 1) exc
  | _, _, _ => true

theorem checkStep_of_fast : ∀ (s : List (Nat × Nat × Nat)) (j : Nat) (exc : List Nat),
    (∀ k ∈ s, posKnot k = true) → fastStep s j exc = true → checkStep s j exc = true
  | [], _, _, _, _ => rfl
  | [_], _, _, _, _ => rfl
  | a :: b :: rest, j, exc, hp, h => by
    have pa := hp a (by simp)
    have pb := hp b (by simp)
    simp only [posKnot, Bool.and_eq_true] at pa pb
    simp only [fastStep, Bool.and_eq_true, Bool.or_eq_true] at h
    simp only [checkStep, Bool.and_eq_true, Bool.or_eq_true, decide_eq_true_eq]
    refine ⟨?_, checkStep_of_fast _ _ _ (fun k hk => hp k (List.mem_cons_of_mem _ hk)) h.2⟩
    rcases h.1 with ⟨h1, h2⟩ | hc
    · right
      have h1 := Nat.le_of_ble_eq_true h1
      have h2 := Nat.le_of_ble_eq_true h2
      rw [dy_of_lt (lt_of_posFin pa.1.1), dy_of_lt (lt_of_posFin pa.1.2),
        dy_of_lt (lt_of_posFin pb.1.1), dy_of_lt (lt_of_posFin pb.1.2)]
      omega
    · exact Or.inl hc

end AlphaG.Drift
