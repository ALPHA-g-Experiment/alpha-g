import AlphaG.Model.Pwb
import AlphaG.Lemmas.Bytes
/-
Lemmas about the 80-bit channel masks of a PWB packet: bit 79 is the top bit of the last mask byte;
the `leading_zeros` loop terminates and enumerates the set bits; the readout-index ↔ channel-id
mapping is a bijection.
Core Lean only.
-/
namespace AlphaG.Pwb

/-- Set bits of `m` below `n`, ascending: the specification of the mask → index list step. -/
def setBits (m n : Nat) : List Nat := (List.range n).filter (fun i => m.testBit i)

theorem setBits_succ (m n : Nat) :
    setBits m (n + 1) = setBits m n ++ (if m.testBit n then [n] else []) := by
  unfold setBits
  rw [List.range_succ, List.filter_append]
  by_cases h : m.testBit n = true <;> simp [h]

theorem setBits_congr {a b n : Nat} (h : ∀ i, i < n → a.testBit i = b.testBit i) :
    setBits a n = setBits b n :=
  List.filter_congr fun i hi => h i (List.mem_range.1 hi)

theorem mem_setBits {m n i : Nat} : i ∈ setBits m n ↔ i < n ∧ m.testBit i = true := by
  simp [setBits]

theorem setBits_lt (m n : Nat) : ∀ i ∈ setBits m n, i < n := fun _ hi => (mem_setBits.1 hi).1

theorem setBits_length_le (m n : Nat) : (setBits m n).length ≤ n :=
  Nat.le_trans (List.length_filter_le _ _) (by simp)

theorem setBits_nodup (m n : Nat) : (setBits m n).Nodup := List.nodup_range.filter _

theorem lt_two_pow_of_testBit_false {m n : Nat} (hm : m < 2 ^ (n + 1)) (hb : m.testBit n = false) :
    m < 2 ^ n := by
  apply Nat.lt_pow_two_of_testBit
  intro i hi
  rcases Nat.lt_or_eq_of_le hi with h | rfl
  · exact Nat.testBit_lt_two_pow (Nat.lt_of_lt_of_le hm (Nat.pow_le_pow_right (by omega) h))
  · exact hb

/-- Bit 79 of a 10-byte little-endian mask is the top bit of its last byte. -/
theorem mask_bit79 (b : List UInt8) (off : Nat) :
    byteAt b (off + 9) &&& 128 = 0 ↔ (leAt b off 10).testBit 79 = false := by
  have h1 := leAt_lt b off 9
  have h2 := byteAt_lt b (off + 9)
  rw [leAt_add b off 9 1, ← byteAt_eq_leAt, and_mask _ 1 7, Nat.testBit_eq_decide_div_mod_eq,
    decide_eq_false_iff_not]
  omega

theorem mask_lt_of_bit79 (b : List UInt8) (off : Nat) (h : (leAt b off 10).testBit 79 = false) :
    leAt b off 10 < 2 ^ 79 :=
  lt_two_pow_of_testBit_false (leAt_lt b off 10) h

/-- The `while num != 0` loop of the decoder pushes exactly the set bits of `num`, highest
first, and needs at most `n` iterations for a value below `2^n` (termination: 128 iterations
suffice for every `u128`). -/
theorem maskLoop_eq : ∀ (n m fuel : Nat), m < 2 ^ n → n ≤ fuel →
    maskLoop fuel m = (setBits m n).reverse
  | 0, m, fuel, hm, _ => by
    have : m = 0 := by simpa using hm
    subst this
    cases fuel <;> simp [maskLoop, setBits]
  | n + 1, m, fuel, hm, hf => by
    rw [setBits_succ]
    cases hb : m.testBit n
    · rw [maskLoop_eq n m fuel (lt_two_pow_of_testBit_false hm hb) (by omega),
        if_neg Bool.false_ne_true, List.append_nil]
    · obtain ⟨f, rfl⟩ : ∃ f, fuel = f + 1 := ⟨fuel - 1, by omega⟩
      have hge : 2 ^ n ≤ m := Nat.ge_two_pow_of_testBit hb
      have hm0 : m ≠ 0 := by have := Nat.two_pow_pos n; omega
      have hlog : m.log2 = n := (Nat.log2_eq_iff hm0).2 ⟨hge, hm⟩
      -- clearing the top set bit leaves the lower bits alone
      have hbit : ∀ i, (m ^^^ 1 <<< n).testBit i = (m.testBit i ^^ decide (n = i)) := fun i => by
        rw [Nat.testBit_xor, Nat.one_shiftLeft, Nat.testBit_two_pow]
      have hx : m ^^^ 1 <<< n < 2 ^ n :=
        lt_two_pow_of_testBit_false
          (Nat.xor_lt_two_pow hm
            (by rw [Nat.one_shiftLeft]; exact Nat.pow_lt_pow_right (by omega) (by omega)))
          (by rw [hbit, hb]; simp)
      have hc : setBits (m ^^^ 1 <<< n) n = setBits m n :=
        setBits_congr fun i hi => by rw [hbit]; simp [Nat.ne_of_gt hi]
      rw [maskLoop, if_neg hm0, hlog, maskLoop_eq n _ f hx (by omega), hc, if_pos rfl,
        List.reverse_append]
      rfl

theorem maskLoop_reverse (m n : Nat) (hm : m < 2 ^ n) (hn : n ≤ 128) :
    (maskLoop 128 m).reverse = setBits m n := by
  rw [maskLoop_eq n m 128 hm hn, List.reverse_reverse]

/-- The channel ids that exist: 3 reset, 4 FPN, 72 pads. -/
def ChannelId.Valid : ChannelId → Prop
  | .reset n => 1 ≤ n ∧ n ≤ 3
  | .fpn n => 1 ≤ n ∧ n ≤ 4
  | .pad n => 1 ≤ n ∧ n ≤ 72

instance ChannelId.decValid (c : ChannelId) : Decidable c.Valid := by
  cases c <;> unfold ChannelId.Valid <;> infer_instance

theorem readout_left_inv : ∀ i, i < 79 →
    idxOk i = true ∧ ∃ c, readoutToChannel (i + 1) = some c ∧ c.Valid ∧ channelToReadout c = i + 1 := by
  have h : ∀ i, i < 79 → idxOk i = true ∧
      (match readoutToChannel (i + 1) with
       | some c => decide c.Valid && decide (channelToReadout c = i + 1)
       | none => false) = true := by decide +kernel
  intro i hi
  obtain ⟨h1, h2⟩ := h i hi
  refine ⟨h1, ?_⟩
  cases hc : readoutToChannel (i + 1) with
  | none => rw [hc] at h2; cases h2
  | some c =>
    rw [hc] at h2
    simp only [Bool.and_eq_true, decide_eq_true_eq] at h2
    exact ⟨c, rfl, h2.1, h2.2⟩

theorem readout_none_of_out (i : Nat) (h : i = 0 ∨ 80 ≤ i) : readoutToChannel i = none := by
  unfold readoutToChannel
  rcases h with h | h
  · subst h; simp
  · have h1 : ¬(1 ≤ i ∧ i ≤ 3) := by omega
    have h2 : ¬(4 ≤ i ∧ i ≤ 79) := by omega
    have : i ≠ 16 ∧ i ≠ 29 ∧ i ≠ 54 ∧ i ≠ 67 := by omega
    simp [h1, h2, this.1, this.2.1, this.2.2.1, this.2.2.2]

theorem readout_some_iff (i : Nat) : (readoutToChannel i).isSome = true ↔ 1 ≤ i ∧ i ≤ 79 := by
  constructor
  · intro h
    by_cases hc : i = 0 ∨ 80 ≤ i
    · rw [readout_none_of_out i hc] at h; cases h
    · omega
  · intro ⟨h1, h2⟩
    obtain ⟨_, c, hc, _⟩ := readout_left_inv (i - 1) (by omega)
    rw [show i - 1 + 1 = i by omega] at hc
    simp [hc]

theorem readout_right_inv : ∀ c : ChannelId, c.Valid →
    1 ≤ channelToReadout c ∧ channelToReadout c ≤ 79 ∧ readoutToChannel (channelToReadout c) = some c := by
  -- a valid id of any of the three kinds has its number below 73
  have h : ∀ n, n < 73 → ∀ c ∈ [ChannelId.reset n, .fpn n, .pad n], c.Valid →
      1 ≤ channelToReadout c ∧ channelToReadout c ≤ 79
        ∧ readoutToChannel (channelToReadout c) = some c := by decide +kernel
  intro c hc
  cases c with
  | reset n | fpn n | pad n =>
    exact h n (by unfold ChannelId.Valid at hc; omega) _ (by simp) hc

theorem readout_no_underflow (i : Nat) : readoutUnderflows i = false := by
  unfold readoutUnderflows padGap
  simp only [decide_eq_false_iff_not]
  intro ⟨h1, h2, h3, h4, h5, h6, h7⟩
  split at h7 <;> split at h7 <;> split at h7 <;> split at h7 <;> omega

theorem readout_eq_some {i : Nat} {c : ChannelId} (h : readoutToChannel i = some c) :
    1 ≤ i ∧ i ≤ 79 ∧ c.Valid ∧ channelToReadout c = i := by
  have hs : (readoutToChannel i).isSome = true := by simp [h]
  have hr := (readout_some_iff i).1 hs
  obtain ⟨_, c', hc', hv, hinv⟩ := readout_left_inv (i - 1) (by omega)
  rw [show i - 1 + 1 = i by omega] at hc' hinv
  rw [h] at hc'
  cases hc'
  exact ⟨hr.1, hr.2, hv, hinv⟩

theorem readout_inj {i j : Nat} {c : ChannelId} (hi : readoutToChannel i = some c)
    (hj : readoutToChannel j = some c) : i = j := by
  rw [← (readout_eq_some hi).2.2.2, ← (readout_eq_some hj).2.2.2]

end AlphaG.Pwb
