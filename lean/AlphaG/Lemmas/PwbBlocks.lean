import AlphaG.Lemmas.PwbMask
/-
Lemmas about the per-channel block loop of the PWB packet decoder and `chansOf`. Core Lean only.
-/
namespace AlphaG.Pwb

theorem chansOf_map_some : ∀ (idx : List Nat), (∀ i ∈ idx, i < 79) →
    (chansOf idx).map some = idx.map (fun i => readoutToChannel (i + 1))
  | [], _ => rfl
  | i :: idx, h => by
    obtain ⟨_, c, hc, _, _⟩ := readout_left_inv i (h i (List.mem_cons_self))
    have ih := chansOf_map_some idx (fun j hj => h j (List.mem_cons_of_mem _ hj))
    unfold chansOf at ih ⊢
    simp only [List.filterMap_cons, hc, List.map_cons, ih]

theorem chansOf_length (idx : List Nat) (h : ∀ i ∈ idx, i < 79) :
    (chansOf idx).length = idx.length := by
  have := congrArg List.length (chansOf_map_some idx h)
  simpa using this

theorem chansOf_getElem (idx : List Nat) (h : ∀ i ∈ idx, i < 79) (k : Nat)
    (hk : k < (chansOf idx).length) (hk' : k < idx.length) :
    readoutToChannel (idx[k] + 1) = some (chansOf idx)[k] := by
  have := List.getElem_of_eq (chansOf_map_some idx h) (i := k) (by simpa using hk)
  rw [List.getElem_map, List.getElem_map] at this
  exact this.symm

theorem all_idxOk (idx : List Nat) (h : ∀ i ∈ idx, i < 79) : idx.all idxOk = true := by
  rw [List.all_eq_true]
  intro i hi
  exact (readout_left_inv i (h i hi)).1

/-- Block `k` of `n` blocks of `B` bytes ends inside the data section. -/
theorem block_le {B k n : Nat} (hk : k < n) : B * k + B ≤ B * n :=
  Nat.mul_succ B k ▸ Nat.mul_le_mul_left B hk

/-- What the loop body checks for sent channel `c` at enumeration index `k`. -/
def BlockOk (b : List UInt8) (req : Nat) (c : ChannelId) (k : Nat) : Prop :=
  52 + bpc req * k + 2 ≤ b.length
  ∧ readoutToChannel (leAt b (52 + bpc req * k) 2) = some c
  ∧ 52 + bpc req * k + 2 + 2 ≤ b.length
  ∧ leAt b (52 + bpc req * k + 2) 2 = req
  ∧ (req % 2 = 0 ∨ 52 + bpc req * k + 4 + 2 * req + 2 ≤ b.length)
  ∧ (req % 2 ≠ 0 → leAt b (52 + bpc req * k + 4 + 2 * req) 2 = 0)

def BlocksOk (b : List UInt8) (req : Nat) : List ChannelId → Nat → Prop
  | [], _ => True
  | c :: cs, k => BlockOk b req c k ∧ BlocksOk b req cs (k + 1)

theorem checkBlocks_eq_ok {α : Type} (b : List UInt8) (req : Nat) :
    ∀ (cs : List ChannelId) (k : Nat) (rest : Outcome Err α) (p : α),
      checkBlocks b req cs k rest = .ok p ↔ BlocksOk b req cs k ∧ rest = .ok p
  | [], k, rest, p => by simp [checkBlocks, BlocksOk]
  | c :: cs, k, rest, p => by
    simp only [checkBlocks, needBytes_eq_ok, need_eq_ok, ite_err_eq_ok,
      checkBlocks_eq_ok b req cs (k + 1) rest p, BlocksOk, BlockOk, readout_no_underflow,
      Bool.not_false, true_and, decide_eq_true_eq, ne_eq, Decidable.not_not, not_and]
    constructor
    · rintro ⟨h1, _, h3, h4, h5, h6, h7, h8, h9⟩
      exact ⟨⟨⟨h1, h3, h4, h5, h6, h7⟩, h8⟩, h9⟩
    · rintro ⟨⟨⟨h1, h3, h4, h5, h6, h7⟩, h8⟩, h9⟩
      exact ⟨h1, by rw [h3]; simp, h3, h4, h5, h6, h7, h8, h9⟩

theorem bpc_eq (req : Nat) : bpc req = 4 + 2 * req + 2 * (req % 2) := by
  unfold bpc; split <;> omega

theorem noPanic_checkBlocks {α : Type} (b : List UInt8) (req : Nat) :
    ∀ (cs : List ChannelId) (k : Nat) (rest : Outcome Err α),
      52 + bpc req * (k + cs.length) ≤ b.length → NoPanic rest →
      NoPanic (checkBlocks b req cs k rest)
  | [], _, _, _, hr => hr
  | c :: cs, k, rest, hlen, hr => by
    have hb := bpc_eq req
    have hm : bpc req * k + bpc req ≤ bpc req * (k + (c :: cs).length) := block_le (by simp)
    have ih := noPanic_checkBlocks b req cs (k + 1) rest
      (by rwa [List.length_cons, ← Nat.add_assoc, Nat.add_right_comm] at hlen) hr
    unfold checkBlocks
    simp only [noPanic_needBytes_iff, noPanic_need_iff, noPanic_ite_err_iff, readout_no_underflow,
      ih, decide_eq_true_eq, Bool.not_false, implies_true, and_true, true_and]
    omega

theorem blocksOk_iff (b : List UInt8) (req : Nat) : ∀ (cs : List ChannelId) (k : Nat),
    BlocksOk b req cs k ↔ ∀ j (hj : j < cs.length), BlockOk b req cs[j] (k + j)
  | [], k => by simp [BlocksOk]
  | c :: cs, k => by
    rw [BlocksOk, blocksOk_iff b req cs (k + 1)]
    constructor
    · rintro ⟨h0, hs⟩ j hj
      cases j with
      | zero => simpa using h0
      | succ j =>
        have := hs j (by simpa using hj)
        rw [show k + 1 + j = k + (j + 1) by omega] at this
        simpa using this
    · intro h
      refine ⟨by have := h 0 (by simp); simpa using this, ?_⟩
      intro j hj
      have := h (j + 1) (by simpa using hj)
      rw [show k + (j + 1) = k + 1 + j by omega] at this
      simpa using this

end AlphaG.Pwb
