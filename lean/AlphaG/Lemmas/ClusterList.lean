import AlphaG.Model.Cluster
/-
List-level lemmas for the clustering model: multiplicity modulo `eq` (`cnt`), `position`,
`swap_remove`, `max_by_key`. Core Lean only.
-/
namespace AlphaG.Cluster

/-- Hypotheses on the three float-valued ingredients. `eq` (`SpacePoint ==`) is an equivalence
(true for NaN-free points) and `get_bins` respects it; a point does not vote twice for one
bin. `near` is only required to be symmetric, and only for connectedness. -/
structure Ctx.Good (ctx : Ctx) : Prop where
  eq_refl : ∀ a, ctx.eq a a = true
  eq_symm : ∀ a b, ctx.eq a b = true → ctx.eq b a = true
  eq_trans : ∀ a b c, ctx.eq a b = true → ctx.eq b c = true → ctx.eq a c = true
  bins_nodup : ∀ a, (ctx.bins a).Nodup
  bins_eq : ∀ a b, ctx.eq a b = true → ∀ k, k ∈ ctx.bins a ↔ k ∈ ctx.bins b

/-- Multiplicity of the `==`-class of `x` in `l`. -/
def cnt (ctx : Ctx) (x : Nat) (l : List Nat) : Nat := l.countP (fun q => ctx.eq x q)

/-- What the element `p` contributes to `cnt ctx x` (`cnt_cons`). -/
def ind (ctx : Ctx) (x p : Nat) : Nat := if ctx.eq x p = true then 1 else 0

@[simp] theorem cnt_nil (ctx : Ctx) (x : Nat) : cnt ctx x [] = 0 := rfl

theorem cnt_cons (ctx : Ctx) (x p : Nat) (l : List Nat) :
    cnt ctx x (p :: l) = cnt ctx x l + ind ctx x p := by
  simp [cnt, ind, List.countP_cons]

theorem cnt_append (ctx : Ctx) (x : Nat) (l₁ l₂ : List Nat) :
    cnt ctx x (l₁ ++ l₂) = cnt ctx x l₁ + cnt ctx x l₂ := by
  simp [cnt, List.countP_append]

theorem cnt_perm (ctx : Ctx) (x : Nat) {l₁ l₂ : List Nat} (h : l₁.Perm l₂) :
    cnt ctx x l₁ = cnt ctx x l₂ := h.countP_eq _

theorem cnt_pos_iff {ctx : Ctx} {x : Nat} {l : List Nat} :
    0 < cnt ctx x l ↔ ∃ q ∈ l, ctx.eq x q = true := List.countP_pos_iff

theorem cnt_le_of_sublist (ctx : Ctx) (x : Nat) {l₁ l₂ : List Nat} (h : l₁.Sublist l₂) :
    cnt ctx x l₁ ≤ cnt ctx x l₂ := h.countP_le

theorem cnt_self_pos {ctx : Ctx} (g : ctx.Good) {p : Nat} {l : List Nat} (h : p ∈ l) :
    0 < cnt ctx p l := cnt_pos_iff.2 ⟨p, h, g.eq_refl p⟩

theorem ind_congr {ctx : Ctx} (g : ctx.Good) {q p : Nat} (h : ctx.eq q p = true) (x : Nat) :
    ind ctx x q = ind ctx x p := by
  have : ctx.eq x q = ctx.eq x p := Bool.eq_iff_iff.2
    ⟨fun h1 => g.eq_trans x q p h1 h, fun h2 => g.eq_trans x p q h2 (g.eq_symm q p h)⟩
  rw [ind, ind, this]

theorem cnt_flatten_le (ctx : Ctx) (x : Nat) {c : List Nat} {L : List (List Nat)} (h : c ∈ L) :
    cnt ctx x c ≤ cnt ctx x L.flatten :=
  cnt_le_of_sublist ctx x (List.sublist_flatten_of_mem h)

theorem position_eq_findIdx? (f : Nat → Bool) (l : List Nat) : position f l = l.findIdx? f := by
  induction l with
  | nil => rfl
  | cons a l ih => rw [position, List.findIdx?_cons, ih]

theorem position_some {f : Nat → Bool} {l : List Nat} {i : Nat} (h : position f l = some i) :
    ∃ hi : i < l.length, f l[i] = true := by
  rw [position_eq_findIdx?, List.findIdx?_eq_some_iff_getElem] at h
  exact ⟨h.1, h.2.1⟩

theorem position_none {f : Nat → Bool} {l : List Nat} (h : position f l = none) :
    ∀ a ∈ l, f a = false := by
  rwa [position_eq_findIdx?, List.findIdx?_eq_none_iff] at h

theorem swapRemove_perm {l : List Nat} {i : Nat} (hi : i < l.length) :
    (l[i] :: swapRemove l i).Perm l := by
  -- with `l = A ++ l[i] :: B`, `swap_remove` keeps `A` and moves the last element of `B` to
  -- its front
  have hl : l.take i ++ l[i] :: l.drop (i + 1) = l := by
    rw [List.getElem_cons_drop hi, List.take_append_drop]
  have hs : swapRemove l i = l.take i ++
      if i + 1 < l.length then l.getLastD 0 :: (l.drop (i + 1)).dropLast else [] := by
    unfold swapRemove; split <;> simp
  rw [hs]
  refine (List.perm_middle.symm.trans (.append_left _ (.cons _ ?_))).trans (.of_eq hl)
  split
  · next h1 =>
    have hne : l.drop (i + 1) ≠ [] := by simpa using h1
    have hlast : l.getLastD 0 = (l.drop (i + 1)).getLast hne := by
      rw [List.getLast_drop, List.getLastD_eq_getLast?, List.getLast?_eq_some_getLast]; rfl
    rw [hlast]
    exact (List.perm_append_singleton _ _).symm.trans (.of_eq (List.dropLast_concat_getLast hne))
  · next h1 => rw [List.drop_eq_nil_of_le (by omega)]

theorem swapRemove_length {l : List Nat} {i : Nat} (hi : i < l.length) :
    (swapRemove l i).length + 1 = l.length := by
  simpa using (swapRemove_perm hi).length_eq

theorem swapRemove_subset {l : List Nat} {i : Nat} (hi : i < l.length) {a : Nat}
    (h : a ∈ swapRemove l i) : a ∈ l :=
  (swapRemove_perm hi).subset (List.mem_cons_of_mem _ h)

/-- `position(|q| q == p)` followed by `swap_remove`: one member of the class of `p` leaves. -/
theorem cnt_swapRemove_position {ctx : Ctx} (g : ctx.Good) {l : List Nat} {p i : Nat}
    (h : position (fun q => ctx.eq q p) l = some i) (x : Nat) :
    cnt ctx x (swapRemove l i) + ind ctx x p = cnt ctx x l := by
  obtain ⟨hi, hq⟩ := position_some h
  rw [← cnt_perm ctx x (swapRemove_perm hi), cnt_cons, ind_congr g hq x]

theorem position_ne_none {ctx : Ctx} (g : ctx.Good) {l : List Nat} {p : Nat}
    (h : 0 < cnt ctx p l) : position (fun q => ctx.eq q p) l ≠ none := by
  intro h0
  obtain ⟨a, ha, hpa⟩ := cnt_pos_iff.1 h
  have := position_none h0 a ha
  simp [g.eq_symm p a hpa] at this

theorem exists_cnt_erase {ctx : Ctx} (g : ctx.Good) {a : Nat} {l : List Nat} (h : 0 < cnt ctx a l) :
    ∃ a' ∈ l, ctx.eq a a' = true ∧ ∀ x, cnt ctx x (l.erase a') + ind ctx x a = cnt ctx x l := by
  obtain ⟨a', ha', haa'⟩ := cnt_pos_iff.1 h
  refine ⟨a', ha', haa', fun x => ?_⟩
  rw [cnt_perm ctx x (List.perm_cons_erase ha'), cnt_cons, ind_congr g (g.eq_symm _ _ haa') x]

theorem length_le_of_cnt_le {ctx : Ctx} (g : ctx.Good) (l l' : List Nat)
    (h : ∀ x, cnt ctx x l ≤ cnt ctx x l') : l.length ≤ l'.length := by
  induction l generalizing l' with
  | nil => exact Nat.zero_le _
  | cons a t ih =>
    obtain ⟨a', ha', _, he⟩ := exists_cnt_erase g
      (Nat.lt_of_lt_of_le (cnt_self_pos g List.mem_cons_self) (h a))
    have := ih (l'.erase a') fun x => by have := h x; have := he x; rw [cnt_cons] at *; omega
    rw [List.length_erase_of_mem ha'] at this
    have := List.length_pos_of_mem ha'
    simp only [List.length_cons]; omega

theorem cnt_eq_count {ctx : Ctx} (hid : ∀ a b, ctx.eq a b = true ↔ a = b) (a : Nat) (l : List Nat) :
    cnt ctx a l = l.count a := by
  refine List.countP_congr fun q _ => ?_
  rw [hid, beq_iff_eq, eq_comm]

theorem lastMaxBy_mem {α : Type} {key : α → Nat} {l : List α} {a : α}
    (h : lastMaxBy key l = some a) : a ∈ l := by
  cases l with
  | nil => cases h
  | cons b l =>
    cases h
    refine List.foldlRecOn l _ List.mem_cons_self fun best hb x hx => ?_
    split
    · exact List.mem_cons_of_mem _ hx
    · exact hb

theorem lastMaxBy_none {α : Type} {key : α → Nat} {l : List α}
    (h : lastMaxBy key l = none) : l = [] := by
  cases l with
  | nil => rfl
  | cons b l => cases h

end AlphaG.Cluster
