import AlphaG.Model.VertexPipeline
import AlphaG.Lemmas.DeconvBasic
import AlphaG.Lemmas.Ranges
import AlphaG.Lemmas.OkOr
/-
Panic inventory of stage 1 of `vertex()` — `MainEvent::avalanches()` as modelled by
`Avalanches.run` — over an arbitrary carrier, no law: under the Rust `assert!` on the response
tables (`ResponsesOk`, checked on the real tables by the C17 harness) the deconvolutions cannot
panic, a block of `contiguous_ranges` is never empty, so the only site left is the
`cholesky_in_place(..).unwrap()`, which fires only when the model's factorisation meets a
non-positive pivot for the size of one of the event's wire blocks.
Core Lean only.
-/
namespace AlphaG.VertexPipeline
open AlphaG AlphaG.Deconv AlphaG.Ranges AlphaG.Matching AlphaG.Avalanches
open AlphaG.Outcome (OkOr)

variable {α : Type} (o : Deconv.Ops α)

/-- The `assert!(response_window.iter().all(|&x| x < 0.0))` of `nn_greedy_deconvolution` holds for
every window of the two grids the code sweeps (wires `0..=1 × 3..=12`, pads `3..=5 × 7..=12`). -/
structure ResponsesOk (T : Tables α) : Prop where
  wire : ∀ off la, off ≤ 1 → 3 ≤ la → la ≤ 12 → ResponseNeg o T.wireResp off la
  pad : ∀ off la, 3 ≤ off → off ≤ 5 → 7 ≤ la → la ≤ 12 → ResponseNeg o T.padResp off la

theorem wireDeconv_total {T : Tables α} (R : ResponsesOk o T) (signal : List α) :
    ∃ out, wireDeconv o T.wireResp signal = .ok out :=
  lsDeconvWith_total o true signal T.wireResp 0 1 3 12 (by omega)
    (fun off la _ h2 h3 h4 => R.wire off la h2 h3 h4)

theorem padDeconv_total {T : Tables α} (R : ResponsesOk o T) (signal : List α) :
    ∃ out, padDeconv o T.padResp signal = .ok out :=
  lsDeconvWith_total o true signal T.padResp 3 5 7 12 (by omega)
    (fun off la h1 h2 h3 h4 => R.pad off la h1 h2 h3 h4)

/-- **`wire_range_deconvolution` on a non-empty block**: it returns, or the Cholesky `unwrap()`
fires — exactly when the factorisation of `a_matrix(len)` meets a non-positive pivot. -/
theorem wireBlock_spec {T : Tables α} (R : ResponsesOk o T) (signals : List (List α))
    (hne : signals ≠ []) :
    OkOr (fun site => site = "wires:cholesky-unwrap" ∧
        cholFactor o T.sqrt signals.length (aTable o T.factors signals.length) = none)
      (wireBlock o T signals) fun _ =>
        (cholFactor o T.sqrt signals.length (aTable o T.factors signals.length)).isSome = true := by
  unfold wireBlock
  have he : signals.isEmpty = false := by cases signals <;> simp_all
  simp only [he, Bool.false_eq_true, if_false]
  cases hc : cholFactor o T.sqrt signals.length (aTable o T.factors signals.length) with
  | none => exact ⟨rfl, rfl⟩
  | some L =>
    obtain ⟨out, hout⟩ : ∃ out, wireSignalsDeconvFast o L T.wireResp signals = .ok out := by
      simp only [wireSignalsDeconvFast, he, Bool.false_eq_true, if_false, deconvColumns]
      exact sequence_total _ (List.forall_mem_map.2 fun column _ => wireDeconv_total o R _)
    show OkOr _ (wireSignalsDeconvFast o L T.wireResp signals) _
    rw [hout]
    exact rfl

variable (g : Geo α) (s : Sorter α)

/-- The size of the wire block of a range. -/
def blockLen (r : Nat × Nat) : Nat := (rangeToIndices nWires r).length

theorem panicSite_eq_some {β : Type} {r : Outcome Unit β} {site : String} :
    panicSite r = some site ↔ r = .panic site := by
  cases r <;> simp [panicSite]

theorem finish_spec (wo : List ((Nat × Nat) × Outcome Unit (List (List α))))
    (cr : List (Option String × List (Avalanche α))) :
    OkOr (fun site => (∃ p ∈ wo, p.2 = .panic site) ∨ ∃ p ∈ cr, p.1 = some site) (finish wo cr)
      fun _ => True := by
  unfold finish
  split
  · rename_i site h
    obtain ⟨p, hp, hs⟩ := List.exists_of_findSome?_eq_some h
    exact .inl ⟨p, hp, panicSite_eq_some.1 hs⟩
  · split
    · rename_i site h
      exact .inr (List.exists_of_findSome?_eq_some h)
    · trivial

/-- **Panic inventory of `MainEvent::avalanches()`** (model `Avalanches.run`), any carrier, under
the response-table assert: the only reachable site is the Cholesky `unwrap()`, and when it fires the
factorisation of `a_matrix(len)` fails for the length of one of the event's wire blocks. -/
theorem run_spec {T : Tables α} (R : ResponsesOk o T) (ev : Event α) :
    OkOr (fun site => site = "wires:cholesky-unwrap" ∧ ∃ r ∈ contiguousRanges (occupancy ev),
        cholFactor o T.sqrt (blockLen r) (aTable o T.factors (blockLen r)) = none)
      (run o g s T ev) fun _ => True := by
  unfold run runWith
  refine (finish_spec _ _).mono (fun _ h => h) fun site h => ?_
  rcases h with ⟨p, hp, hps⟩ | ⟨p, hp, hps⟩
  · simp only [wireOutcomes, List.mem_map] at hp
    obtain ⟨r, hr, rfl⟩ := hp
    have hne : blockSignals ev (rangeToIndices nWires r) ≠ [] := by
      have := indices_ne_nil (occupancy ev) r hr
      rw [show (occupancy ev).length = nWires by simp [occupancy]] at this
      simpa [blockSignals] using this
    have hlen : (blockSignals ev (rangeToIndices nWires r)).length = blockLen r := by
      simp [blockSignals, blockLen]
    obtain ⟨rfl, hc⟩ := (wireBlock_spec o R _ hne).of_panic hps
    exact ⟨rfl, r, hr, hlen ▸ hc⟩
  · exfalso
    simp only [columnResults, List.mem_map] at hp
    obtain ⟨c, _, rfl⟩ := hp
    simp only [columnResult] at hps
    obtain ⟨x, hx, hxs⟩ := List.exists_of_findSome?_eq_some hps
    simp only [padOutcomes, List.mem_map] at hx
    obtain ⟨row, _, rfl⟩ := hx
    cases hpad : ev.pads c row with
    | none => rw [hpad] at hxs; cases hxs
    | some signal =>
      obtain ⟨out, hout⟩ := padDeconv_total o R signal
      rw [hpad, Option.map_some, Option.bind_some, hout] at hxs
      cases hxs

theorem run_panic {T : Tables α} (R : ResponsesOk o T) (ev : Event α) (site : String)
    (h : run o g s T ev = .panic site) :
    site = "wires:cholesky-unwrap" ∧ ∃ r ∈ contiguousRanges (occupancy ev),
      cholFactor o T.sqrt (blockLen r) (aTable o T.factors (blockLen r)) = none :=
  (run_spec o g s R ev).of_panic h

end AlphaG.VertexPipeline
