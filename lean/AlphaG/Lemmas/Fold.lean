import AlphaG.Lemmas.Bytes
/-
What holds of every `List.foldlM` in `Outcome`, so that a property of a loop of a model, once the
loop is shown to be such a fold (`Lemmas/EventInv.lean`: `bankLoop_eq`, `groupLoop_eq`,
`channelLoop_eq`), needs only the lemma about its step. Core Lean only.
-/
namespace AlphaG.Outcome

variable {ε σ β : Type} {f : σ → β → Outcome ε σ}

theorem foldlM_cons_ok {b : β} {l : List β} {s s' : σ} :
    (b :: l).foldlM f s = .ok s' ↔ ∃ s1, f s b = .ok s1 ∧ l.foldlM f s1 = .ok s' := by
  rw [List.foldlM_cons]
  cases f s b <;> simp

theorem foldlM_ok_inv {P : σ → List β → Prop}
    (step : ∀ s s' done b, f s b = .ok s' → P s done → P s' (done ++ [b])) :
    ∀ (l : List β) (s s' : σ) (done : List β), l.foldlM f s = .ok s' → P s done → P s' (done ++ l)
  | [], s, s', done, h, hP => by cases h; simpa using hP
  | b :: l, s, s', done, h, hP => by
    obtain ⟨s1, h1, h2⟩ := foldlM_cons_ok.1 h
    simpa using foldlM_ok_inv step l s1 s' (done ++ [b]) h2 (step s s1 done b h1 hP)

theorem foldlM_ok_mem : ∀ {l : List β} {s s' : σ}, l.foldlM f s = .ok s' → ∀ b ∈ l,
    ∃ s1 s2, f s1 b = .ok s2
  | b :: l, s, s', h, x, hx => by
    obtain ⟨s1, h1, h2⟩ := foldlM_cons_ok.1 h
    rcases List.mem_cons.1 hx with rfl | hx
    · exact ⟨s, s1, h1⟩
    · exact foldlM_ok_mem h2 x hx

theorem foldlM_noPanic : ∀ {l : List β}, (∀ b ∈ l, ∀ s, NoPanic (f s b)) → ∀ s, NoPanic (l.foldlM f s)
  | [], _, s => noPanic_ok s
  | b :: l, step, s => by
    rw [List.foldlM_cons]
    cases h : f s b with
    | ok s1 => exact foldlM_noPanic (fun b hb => step b (List.mem_cons_of_mem _ hb)) s1
    | err e => exact noPanic_err e
    | panic t => exact absurd h (step b List.mem_cons_self s t)

/-- A fold succeeds if each step does, under a condition on the state, the items done and the
items still to come that the step hands on. -/
theorem foldlM_ok_of {Q : σ → List β → List β → Prop}
    (step : ∀ s done b rest, Q s done (b :: rest) → ∃ s', f s b = .ok s' ∧ Q s' (done ++ [b]) rest) :
    ∀ (l : List β) (s : σ) (done : List β), Q s done l →
      ∃ s', l.foldlM f s = .ok s' ∧ Q s' (done ++ l) []
  | [], s, done, h => ⟨s, rfl, by simpa using h⟩
  | b :: l, s, done, h => by
    obtain ⟨s1, h1, q1⟩ := step s done b l h
    obtain ⟨s', h2, q2⟩ := foldlM_ok_of step l s1 (done ++ [b]) q1
    exact ⟨s', foldlM_cons_ok.2 ⟨s1, h1, h2⟩, by simpa using q2⟩

/-- The same for a fixed list `l`: the step learns where in `l` it stands, so that what holds of
all of `l` (every item is fine, no item occurs twice) stays outside the condition. -/
theorem foldlM_ok_of_split {Q : σ → List β → Prop} {l : List β}
    (step : ∀ s done b rest, l = done ++ b :: rest → Q s done →
      ∃ s', f s b = .ok s' ∧ Q s' (done ++ [b]))
    {s : σ} (h : Q s []) : ∃ s', l.foldlM f s = .ok s' ∧ Q s' l :=
  (foldlM_ok_of (Q := fun s done rest => l = done ++ rest ∧ Q s done)
    (fun s done b rest ⟨e, q⟩ => (step s done b rest e q).imp fun s' h =>
      ⟨h.1, by rw [List.append_assoc]; exact e, h.2⟩) l s [] ⟨rfl, h⟩).imp fun s' h => ⟨h.1, h.2.2⟩

theorem foldlM_append (l₁ l₂ : List β) (s : σ) :
    (l₁ ++ l₂).foldlM f s = l₁.foldlM f s >>= l₂.foldlM f := by
  induction l₁ generalizing s with
  | nil => rfl
  | cons b l ih =>
    rw [List.cons_append, List.foldlM_cons, List.foldlM_cons]
    cases f s b <;> simp [ih]

end AlphaG.Outcome
