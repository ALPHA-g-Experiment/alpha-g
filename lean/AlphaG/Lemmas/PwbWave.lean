import AlphaG.Lemmas.PwbBlocks
/-
Lemmas for `waveform_at`: `position`, the `i16` view of the data section, offsets. Core only.
-/
namespace AlphaG.Pwb

theorem position?_eq_none_iff (c : ChannelId) : ∀ l : List ChannelId, position? c l = none ↔ c ∉ l
  | [] => by simp [position?]
  | x :: xs => by
    by_cases h : x = c
    · simp [position?, h]
    · have : ¬c = x := fun e => h e.symm
      simp [position?, h, this, position?_eq_none_iff c xs]

theorem position?_getElem : ∀ (l : List ChannelId), l.Nodup → ∀ (k : Nat) (hk : k < l.length),
    position? l[k] l = some k
  | [], _, k, hk => by simp at hk
  | x :: xs, hn, 0, _ => by simp [position?]
  | x :: xs, hn, k + 1, hk => by
    have hk' : k < xs.length := by simpa using hk
    have hx : ¬x = xs[k] := by
      intro e
      have := (List.nodup_cons.1 hn).1
      exact this (e ▸ List.getElem_mem hk')
    simp only [List.getElem_cons_succ, position?, hx, if_false,
      position?_getElem xs (List.nodup_cons.1 hn).2 k hk', Option.map_some]

theorem chansOf_nodup (idx : List Nat) (h : ∀ i ∈ idx, i < 79) (hn : idx.Nodup) :
    (chansOf idx).Nodup := by
  have : ((chansOf idx).map some).Nodup := by
    rw [chansOf_map_some idx h]
    refine List.pairwise_map.2 (hn.imp_of_mem fun {i j} hi _ hij e => hij ?_)
    obtain ⟨_, c, hc, _⟩ := readout_left_inv i (h i hi)
    have := readout_inj hc (e ▸ hc)
    omega
  exact (List.pairwise_map.1 this).imp fun hne e => hne (congrArg some e)

theorem i16s_take : ∀ (n : Nat) (l : List UInt8), 2 * n ≤ l.length →
    (i16s l).take n = (List.range n).map (fun j => toSigned 16 (leAt l (2 * j) 2))
  | 0, _, _ => by simp
  | n + 1, l, h => by
    match l, h with
    | lo :: hi :: rest, h =>
      have hr : 2 * n ≤ rest.length := by simp at h; omega
      rw [i16s, List.take_succ_cons, i16s_take n rest hr, List.range_succ_eq_map, List.map_cons,
        List.map_map]
      congr 1

theorem i16s_drop : ∀ (a : Nat) (l : List UInt8), (i16s l).drop a = i16s (l.drop (2 * a))
  | 0, l => by simp
  | a + 1, l => by
    match l with
    | [] => simp [i16s]
    | [x] =>
      rw [show 2 * (a + 1) = (2 * a + 1) + 1 by omega, List.drop_succ_cons]
      simp [i16s]
    | lo :: hi :: rest =>
      rw [i16s, List.drop_succ_cons, i16s_drop a rest, show 2 * (a + 1) = (2 * a + 1) + 1 by omega,
        List.drop_succ_cons, List.drop_succ_cons]

theorem i16s_length : ∀ (l : List UInt8), (i16s l).length = l.length / 2
  | [] => rfl
  | [x] => by simp [i16s]
  | lo :: hi :: rest => by
    rw [i16s, List.length_cons, i16s_length rest]; simp only [List.length_cons]; omega

theorem i16s_window (b : List UInt8) (m a n : Nat) (h : m + 2 * (a + n) ≤ b.length) :
    ((i16s (b.drop m)).drop a).take n
      = (List.range n).map (fun j => toSigned 16 (leAt b (m + 2 * a + 2 * j) 2)) := by
  rw [i16s_drop, i16s_take n _ (by simp only [List.length_drop]; omega)]
  apply List.map_congr_left
  intro j _
  rw [List.drop_drop, leAt_drop]

theorem spc_eq (req : Nat) : spc req = 2 + req + req % 2 := by
  unfold spc; split <;> omega

end AlphaG.Pwb
