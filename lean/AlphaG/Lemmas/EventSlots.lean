import AlphaG.Model.Event
/-
The signal arrays of `try_from_banks` as tables filled by a loop that refuses a second value for a
slot. Two views, for the two directions of C10: `Filled` — the slots hold what the lists of hits
say (what a successful build produced); `Owned` — every occupied slot has a recorded source (why
the occupancy test cannot fire on accepted input). The wire slots and the pad slots are instances;
the timestamp is the one-slot case and uses `pick1` directly.
-/
namespace AlphaG.Event

variable {α β γ ι σ : Type}

/-- The value determined by a list with exactly one element. -/
def pick1 (f : γ → β) : List γ → Option β
  | [a] => some (f a)
  | _ => none

theorem pick1_perm (f : γ → β) {l₁ l₂ : List γ} (hp : l₁.Perm l₂) : pick1 f l₁ = pick1 f l₂ := by
  match l₂, hp with
  | [], hp => rw [List.perm_nil.1 hp]
  | [a], hp => rw [List.perm_singleton.1 hp]
  | a :: b :: t, hp =>
    match l₁, hp.length_eq with
    | x :: y :: t', _ => rfl

theorem pick1_none {f : γ → β} {l : List γ} (h : pick1 f l = none) (hl : l.length ≤ 1) : l = [] := by
  match l, hl with
  | [], _ => rfl
  | [a], _ => cases h

theorem pick1_some {f : γ → β} {l : List γ} {v : β} (h : pick1 f l = some v) : l.length = 1 := by
  match l, h with
  | [a], _ => rfl

/-- `a` has `n` slots; for every valid `i`, slot `idx i` holds the value of the one entry of `L i`
(none if there is no entry), and no `L i` has two entries. -/
structure Filled (n : Nat) (ok : ι → Prop) (idx : ι → Nat) (f : ι → γ → List α)
    (a : Array (Option (List α))) (L : ι → List γ) : Prop where
  size : a.size = n
  slot : ∀ i, ok i → a[idx i]? = some (pick1 (f i) (L i)) ∧ (L i).length ≤ 1

variable {n : Nat} {ok : ι → Prop} {idx : ι → Nat} {f : ι → γ → List α} {a : Array (Option (List α))}
  {L L' : ι → List γ}

theorem Filled.congr (h : Filled n ok idx f a L) (e : ∀ i, L' i = L i) : Filled n ok idx f a L' :=
  ⟨h.size, fun i hi => by rw [e i]; exact h.slot i hi⟩

theorem filled_replicate (hn : ∀ i, ok i → idx i < n) :
    Filled n ok idx f (Array.replicate n none) (fun _ => []) :=
  ⟨Array.size_replicate, fun i hi => by simp [hn i hi, pick1]⟩

/-- A free slot is filled with the value of a new entry; the slot was free, so there was no
earlier entry. -/
theorem Filled.store (h : Filled n ok idx f a L)
    (hinj : ∀ i j, ok i → ok j → idx i = idx j → i = j) {i₀ : ι} {x : γ} (h₀ : ok i₀)
    (hfree : slotTaken a (idx i₀) = false)
    (e₀ : L' i₀ = L i₀ ++ [x]) (e : ∀ i, i ≠ i₀ → L' i = L i) :
    Filled n ok idx f (a.setIfInBounds (idx i₀) (some (f i₀ x))) L' := by
  refine ⟨by rw [Array.size_setIfInBounds]; exact h.size, fun i hi => ?_⟩
  obtain ⟨hs, hl⟩ := h.slot i hi
  by_cases hii : i = i₀
  · subst hii
    have hnil : L i = [] := by
      rw [slotTaken, hs] at hfree
      exact pick1_none (by simpa using hfree) hl
    have hlt : idx i < a.size := (Array.getElem?_eq_some_iff.1 hs).1
    rw [e₀, hnil]
    simp [hlt, pick1]
  · rw [e i hii, Array.getElem?_setIfInBounds_ne (fun hh => hii (hinj _ _ hi h₀ hh.symm))]
    exact ⟨hs, hl⟩

/-- The store as `try_from_banks` does it (`if !signal.is_empty() { slot = Some(signal) }`, after
the occupancy test); `H` are the entries the attempt adds to the lists. -/
theorem Filled.storeIf [DecidableEq ι] (h : Filled n ok idx f a L)
    (hinj : ∀ i j, ok i → ok j → idx i = idx j → i = j) {i₀ : ι} {x : γ} (h₀ : ok i₀)
    (hfree : slotTaken a (idx i₀) = false) {H : ι → List γ}
    (hH : ∀ i, H i = if i = i₀ ∧ (f i₀ x).isEmpty = false then [x] else []) :
    Filled n ok idx f (if (f i₀ x).isEmpty then a else a.setIfInBounds (idx i₀) (some (f i₀ x)))
      (fun i => L i ++ H i) := by
  split
  · rename_i he
    exact h.congr fun i => by rw [hH, he]; simp
  · rename_i he
    exact h.store hinj h₀ hfree (by simp [hH, he]) fun i hne => by simp [hH, hne]

theorem Filled.perm (h : Filled n ok idx f a L) (hL : ∀ i, (L i).Perm (L' i)) :
    Filled n ok idx f a L' :=
  ⟨h.size, fun i hi => by rw [← pick1_perm _ (hL i), ← (hL i).length_eq]; exact h.slot i hi⟩

theorem Filled.ext {a' : Array (Option (List α))} (h : Filled n ok idx f a L)
    (h' : Filled n ok idx f a' L) (hsurj : ∀ k, k < n → ∃ i, ok i ∧ idx i = k) : a = a' := by
  apply Array.ext_getElem?
  intro k
  by_cases hk : k < n
  · obtain ⟨i, hi, rfl⟩ := hsurj k hk
    rw [(h.slot i hi).1, (h'.slot i hi).1]
  · rw [Array.getElem?_eq_none (by rw [h.size]; omega), Array.getElem?_eq_none (by rw [h'.size]; omega)]

/-- Every occupied slot was written by one of the sources in `S`, where `At s i` says that
source `s` writes slot `i`. `S` may be larger than the set of sources seen (`Owned.mono`). -/
def Owned (At : σ → Nat → Prop) (a : Array (Option (List α))) (S : σ → Prop) : Prop :=
  ∀ i, slotTaken a i = true → ∃ s, S s ∧ At s i

variable {At : σ → Nat → Prop} {S S' : σ → Prop}

theorem owned_replicate (n : Nat) : Owned At (Array.replicate n (none : Option (List α))) S := by
  intro i hi
  rw [slotTaken, Array.getElem?_replicate] at hi
  split at hi <;> cases hi

theorem Owned.mono (h : Owned At a S) (hs : ∀ s, S s → S' s) : Owned At a S' :=
  fun i hi => let ⟨s, hm, hat⟩ := h i hi; ⟨s, hs s hm, hat⟩

theorem Owned.store (h : Owned At a S) {s : σ} {i : Nat} (hs : At s i) (v : List α) :
    Owned At (a.setIfInBounds i (some v)) (fun t => S t ∨ t = s) := by
  intro j hj
  by_cases hij : i = j
  · exact ⟨s, Or.inr rfl, hij ▸ hs⟩
  · rw [slotTaken, Array.getElem?_setIfInBounds_ne hij] at hj
    exact (h.mono fun _ => Or.inl) j hj

theorem Owned.free (h : Owned At a S) (hinj : ∀ s s' i, At s i → At s' i → s = s') {s : σ}
    {i : Nat} (hs : At s i) (hnew : ¬ S s) : slotTaken a i = false := by
  cases ht : slotTaken a i with
  | false => rfl
  | true =>
    obtain ⟨s', hm, hat⟩ := h i ht
    exact absurd (hinj s' s i hat hs ▸ hm) hnew

end AlphaG.Event
