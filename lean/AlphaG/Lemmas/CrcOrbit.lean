import AlphaG.Lemmas.Crc
/-
Two-bit errors: the zero-input map `Z = step · false` of the CRC-32C register brings the state 1
back to 1 exactly at the multiples of the Mersenne prime 2^31 - 1 (the order of x modulo the
generator), far beyond every codeword length of a PWB chunk (at most 65 540 bytes = 524 320 bits
per CRC region).

`Z` is linear and the register is cyclic under it: bit `i` is `Z^(31-i) u` for `u = 0x80000000`,
so `Z^a` is determined by `Z^a u` and applied by a 32-step Horner loop (`act`). Squaring 31 times
gives `Z^(2^31) = Z` (Frobenius on the degree-31 factor of the generator; x = 1 modulo the factor
x + 1), one kernel evaluation of 992 register steps. The return times of a state are closed under
gcd, and 2^31 - 1 is prime (trial division), so they are the multiples of 2^31 - 1.
-/
namespace AlphaG.Crc

theorem run_zeros_add (a b : Nat) (s : BitVec 32) :
    run s (List.replicate (a + b) false)
      = run (run s (List.replicate a false)) (List.replicate b false) := by
  rw [← List.replicate_append_replicate, run_append]

theorem run_zeros_xor (k : Nat) (s t : BitVec 32) :
    run (s ^^^ t) (List.replicate k false)
      = run s (List.replicate k false) ^^^ run t (List.replicate k false) := by
  have := run_xor (List.replicate k false) (List.replicate k false) s t rfl
  rwa [List.zipWith_replicate'] at this

theorem run_zeros_mod {s : BitVec 32} {a : Nat} (ha : run s (List.replicate a false) = s) :
    ∀ q r, run s (List.replicate (a * q + r) false) = run s (List.replicate r false)
  | 0, r => by rw [Nat.mul_zero, Nat.zero_add]
  | q + 1, r => by
    rw [Nat.mul_succ, Nat.add_assoc, Nat.add_comm a r, ← Nat.add_assoc, run_zeros_add,
      run_zeros_mod ha q r, ← run_zeros_add, Nat.add_comm, run_zeros_add, ha]

theorem run_zeros_gcd {s : BitVec 32} (a b : Nat) :
    run s (List.replicate a false) = s → run s (List.replicate b false) = s →
      run s (List.replicate (Nat.gcd a b) false) = s := by
  induction a, b using Nat.gcd.induction with
  | H0 n => intro _ h; rwa [Nat.gcd_zero_left]
  | H1 m n hm ih =>
    intro ha hb
    rw [Nat.gcd_rec]
    apply ih _ ha
    rw [← run_zeros_mod ha (n / m) (n % m), Nat.div_add_mod]; exact hb

/-- `act r acc m`: for each bit of `m`, one zero-input step of `acc`, then add `r` if the bit is
set (`act POLY = run`). With `r = Z^a u` and `m` the bits of `t` it computes `Z^a t`. The base is
`u = 0x80000000` and not `POLY = Z^32 u`, the base of `run`: then `r` stands for `Z^a` itself, not
`Z^(a+32)`, and 31 squarings of `Z u` come back to `Z u` exactly. -/
def act (r : BitVec 32) : BitVec 32 → List Bool → BitVec 32
  | acc, [] => acc
  | acc, b :: m => act r (step acc false ^^^ (if b then r else 0#32)) m

theorem act_POLY : ∀ (m : List Bool) (acc : BitVec 32), act POLY acc m = run acc m
  | [], _ => rfl
  | b :: m, acc => by rw [act, run, step_eq acc b, act_POLY m]

theorem run_zeros_step (a : Nat) (s : BitVec 32) :
    run (step s false) (List.replicate a false) = step (run s (List.replicate a false)) false := by
  have h1 := run_zeros_add 1 a s
  have h2 := run_zeros_add a 1 s
  rw [Nat.add_comm] at h1
  rw [h1] at h2
  exact h2

theorem act_run_zeros (a : Nat) (r : BitVec 32) : ∀ (m : List Bool) (acc : BitVec 32),
    act (run r (List.replicate a false)) (run acc (List.replicate a false)) m
      = run (act r acc m) (List.replicate a false)
  | [], _ => rfl
  | b :: m, acc => by
    rw [act, act, ← act_run_zeros a r m, run_zeros_xor, run_zeros_step]
    cases b
    · simp only [Bool.false_eq_true, if_false, run_zeros_zero]
    · simp only [if_true]

theorem length_bitsLE : ∀ (k n : Nat), (bitsLE n k).length = k
  | 0, _ => rfl
  | k + 1, n => by rw [bitsLE, List.length_cons, length_bitsLE k]

theorem zipWith_bne_false : ∀ m : List Bool,
    List.zipWith (· != ·) m (List.replicate m.length false) = m
  | [] => rfl
  | b :: m => by
    rw [List.length_cons, List.replicate_succ, List.zipWith_cons_cons, zipWith_bne_false m,
      Bool.bne_false]

theorem run_zero_bits (t : BitVec 32) :
    run 0#32 (bitsLE t.toNat 32) = run t (List.replicate 32 false) := by
  have h := run_xor (bitsLE t.toNat 32) (List.replicate (bitsLE t.toNat 32).length false) t t
    (by rw [List.length_replicate])
  rw [zipWith_bne_false, BitVec.xor_self, run_self 32 t t.isLt, BitVec.zero_xor,
    length_bitsLE] at h
  exact h

theorem run_top_32 : run 0x80000000#32 (List.replicate 32 false) = POLY := by decide

theorem act_top (t : BitVec 32) : act 0x80000000#32 0#32 (bitsLE t.toNat 32) = t := by
  -- push both sides through 32 zero steps (`run_inj`): `Z^32 u = POLY` turns `act u` into a run of the
  -- register from 0 on the bits of `t`, which leaves `t` (`run_zero_bits`)
  apply run_inj (List.replicate 32 false)
  rw [← act_run_zeros, run_top_32, run_zeros_zero, act_POLY, run_zero_bits]

theorem act_rep (a : Nat) (t : BitVec 32) :
    act (run 0x80000000#32 (List.replicate a false)) 0#32 (bitsLE t.toNat 32)
      = run t (List.replicate a false) := by
  have := act_run_zeros a 0x80000000#32 (bitsLE t.toNat 32) 0#32
  rwa [run_zeros_zero, act_top] at this

/-- Squaring: `r = Z^a u` stands for `Z^a`; applying it to `r` itself gives `Z^(2a) u` (`sq_rep`). -/
def sq (r : BitVec 32) : BitVec 32 := act r 0#32 (bitsLE r.toNat 32)

theorem sq_rep (a : Nat) : sq (run 0x80000000#32 (List.replicate a false))
    = run 0x80000000#32 (List.replicate (a + a) false) := by
  rw [sq, act_rep, ← run_zeros_add]

theorem repeat_sq_rep (a : Nat) : ∀ j : Nat,
    Nat.repeat sq j (run 0x80000000#32 (List.replicate a false))
      = run 0x80000000#32 (List.replicate (a * 2 ^ j) false)
  | 0 => by rw [Nat.pow_zero, Nat.mul_one]; rfl
  | j + 1 => by
    rw [Nat.repeat, repeat_sq_rep a j, sq_rep, Nat.pow_succ, ← Nat.mul_two, Nat.mul_assoc]

/-- 31 squarings of `Z u = 0x40000000` come back to it: the one kernel evaluation (31 × 32 register
steps). -/
theorem frobenius_cert : Nat.repeat sq 31 0x40000000#32 = 0x40000000#32 := by decide +kernel

theorem run_zeros_frobenius (t : BitVec 32) :
    run t (List.replicate (2 ^ 31) false) = step t false := by
  have h := repeat_sq_rep 1 31
  rw [show run 0x80000000#32 (List.replicate 1 false) = 0x40000000#32 by decide, frobenius_cert,
    Nat.one_mul] at h
  -- `h : Z u = Z^(2^31) u`; both sides of the goal are `act` of that one register on the bits of
  -- `t` (`act_rep` at `2^31` and at `1`)
  rw [← act_rep, ← h]
  exact act_rep 1 t

theorem return_mersenne : run 1#32 (List.replicate 2147483647 false) = 1#32 := by
  apply step_inj _ _ false
  rw [← run_zeros_step]
  exact (run_zeros_add 1 2147483647 1#32).symm.trans (run_zeros_frobenius 1#32)

/-- None of `d, d + 2, …, d + 2 (fuel - 1)` divides `n`. -/
def noDivisor (n : Nat) : Nat → Nat → Bool
  | 0, _ => true
  | f + 1, d => n % d != 0 && noDivisor n f (d + 2)

theorem noDivisor_spec {n : Nat} : ∀ {f d : Nat}, noDivisor n f d = true →
    ∀ e, d ≤ e → e < d + 2 * f → e % 2 = d % 2 → n % e ≠ 0
  | 0, d, _, e, h1, h2, _ => by omega
  | f + 1, d, h, e, h1, h2, h3 => by
    simp only [noDivisor, Bool.and_eq_true, bne_iff_ne] at h
    by_cases he : e = d
    · subst he; exact h.1
    · exact noDivisor_spec h.2 e (by omega) (by omega) (by omega)

theorem mersenne31_trial : noDivisor 2147483647 23170 3 = true := by decide +kernel

theorem mersenne31_prime {d : Nat} (h : d ∣ 2147483647) : d = 1 ∨ d = 2147483647 := by
  obtain ⟨m, hm⟩ := h
  -- a factor below √(2^31 - 1) is odd, so the trial division has met it
  have small : ∀ a c : Nat, 2147483647 = a * c → a < 46341 → a = 1 := by
    intro a c hac ha
    apply Decidable.byContradiction; intro h1
    have h0 : a ≠ 0 := by rintro rfl; simp at hac
    have hodd : a % 2 = 1 := by
      have : a ∣ 2147483647 := ⟨c, hac⟩
      apply Decidable.byContradiction; intro h2
      have := Nat.dvd_trans (Nat.dvd_of_mod_eq_zero (show a % 2 = 0 by omega)) this
      omega
    exact noDivisor_spec mersenne31_trial a (by omega) (by omega) hodd
      (by rw [hac]; exact Nat.mul_mod_right a c)
  by_cases hd : d < 46341
  · exact Or.inl (small d m hm hd)
  · by_cases hc : m < 46341
    · have := small m d (by rw [hm, Nat.mul_comm]) hc
      subst this; right; omega
    · have := Nat.mul_le_mul (Nat.le_of_not_lt hd) (Nat.le_of_not_lt hc)
      omega

theorem return_iff_dvd (k : Nat) :
    run 1#32 (List.replicate k false) = 1#32 ↔ 2147483647 ∣ k := by
  constructor
  · intro hk
    have hg := run_zeros_gcd k 2147483647 hk return_mersenne
    rcases mersenne31_prime (Nat.gcd_dvd_right k 2147483647) with h1 | hN
    · rw [h1] at hg; exact absurd hg (by decide)
    · rw [← hN]; exact Nat.gcd_dvd_left k 2147483647
  · rintro ⟨q, rfl⟩
    exact run_zeros_mod return_mersenne q 0

theorem no_return (k : Nat) (h1 : 1 ≤ k) (h2 : k < 2147483647) :
    run 1#32 (List.replicate k false) ≠ 1#32 := by
  intro h
  have := Nat.le_of_dvd (by omega) ((return_iff_dvd k).1 h)
  omega

theorem step_one_true : step 1#32 true = 0#32 := by decide
theorem step_zero_true : step 0#32 true = step 1#32 false := by decide

/-- The only state that a one bit clears is 1. -/
theorem step_true_zero (s : BitVec 32) (h : step s true = 0#32) : s = 1#32 :=
  step_inj s 1#32 true (h.trans step_one_true.symm)

/-- Two-bit detection on bit strings: two ones at distance `k + 1 < 2^31 - 1` leave a non-zero
residue. -/
theorem run_zero_two (a k c : Nat) (hk : k + 1 < 2147483647) :
    run 0#32 (List.replicate a false ++ [true] ++ List.replicate k false ++ [true]
      ++ List.replicate c false) ≠ 0#32 := by
  intro h0
  rw [run_append, run_append, run_append, run_append, run_zeros_zero] at h0
  have h1 := run_zero_inj c _ h0
  simp only [run] at h1
  have h2 := step_true_zero _ h1
  rw [step_zero_true] at h2
  have h3 : run 1#32 (List.replicate (k + 1) false) = 1#32 := by
    rw [List.replicate_succ, run]; exact h2
  exact no_return (k + 1) (by omega) hk h3

end AlphaG.Crc
