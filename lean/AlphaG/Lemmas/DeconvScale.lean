import AlphaG.Lemmas.DeconvBasic
/-
`deconv_scale`: "multiplying every calibrated sample of an event by a power of two multiplies
every recovered amplitude by exactly that factor while changing no time/index".

Stated for ANY carrier `Ops α` and any pair of maps `σ` (the scaling of samples/amplitudes) and
`σ2` (the induced scaling of sums of squares) satisfying the homogeneity laws `HomogCore` (all
arithmetic laws) / `Homog` (`HomogCore` plus `σ2 (+∞) = +∞`). Signals are `List`s, so "changing no
time/index" is the fact that results are related by the elementwise `List.map σ`.

For `f64`, `σ = (2^k * ·)`, `σ2 = (2^(2k) * ·)`: every law of `Homog` holds as long as no
operation over/underflows (multiplication by a power of two is exact, commutes with correctly
rounded `- * /`, with `min`, with comparisons against `0` and with each other; `4^k·∞ = ∞`). That
is an *assumption* at this level (the carrier has no laws); the harness tests the statement on the
implementation. For an exact ordered field the laws are proved below (`homog_of_pos`), except the
`inf` law: a field has no `+∞`, so the field-level statement `deconv_scale_field_first` has an
explicit hypothesis about `top` instead.
-/
namespace AlphaG.Deconv
open Lean Grind Std

/-- Map the value of an `Outcome`, keeping `err`/`panic` (same panic site) as they are. -/
def omap {ε β γ : Type} (f : β → γ) : Outcome ε β → Outcome ε γ
  | .ok a => .ok (f a)
  | .err e => .err e
  | .panic s => .panic s

@[simp] theorem omap_ok {ε β γ : Type} (f : β → γ) (a : β) :
    omap f (.ok a : Outcome ε β) = .ok (f a) := rfl
@[simp] theorem omap_err {ε β γ : Type} (f : β → γ) (e : ε) :
    omap f (.err e : Outcome ε β) = .err e := rfl
@[simp] theorem omap_panic {ε β γ : Type} (f : β → γ) (s : String) :
    omap f (.panic s : Outcome ε β) = .panic s := rfl

/-- The homogeneity laws used by `nn_greedy_deconvolution` and by the comparison of
`ls_deconvolution`, except the one about `f64::INFINITY`. Which Rust operation needs which law:
* `zero`: `vec![0.0; signal.len()]` (the initial `input`), and the `0.0` padding of `y_matrix`;
* `sub_mul`: `*s -= val * r` with `val` scaled and the response `r` *not* scaled;
* `div`: `s / r` (residual sample over response sample);
* `min`: `.reduce(f64::min)`;
* `nonneg`: `**x >= 0.0` (the search for the last non-negative sample of the window);
* `sq`: `x.powi(2)`;
* `add2`, `sumInit`: `.sum()` of the squares (`sumInit` is the start value of the sum);
* `lt2`: `residual < best_residual` in `ls_deconvolution` (not needed by `deconv_scale_nn`,
  only by `deconv_scale`). -/
structure HomogCore {α : Type} (o : Ops α) (σ σ2 : α → α) : Prop where
  zero : σ o.zero = o.zero
  sub_mul : ∀ a v r, o.sub (σ a) (o.mul (σ v) r) = σ (o.sub a (o.mul v r))
  div : ∀ a r, o.div (σ a) r = σ (o.div a r)
  min : ∀ a b, o.min (σ a) (σ b) = σ (o.min a b)
  nonneg : ∀ a, o.le o.zero (σ a) = o.le o.zero a
  sq : ∀ a, o.mul (σ a) (σ a) = σ2 (o.mul a a)
  add2 : ∀ a b, o.add (σ2 a) (σ2 b) = σ2 (o.add a b)
  sumInit : σ2 o.sumInit = o.sumInit
  lt2 : ∀ a b, o.lt (σ2 a) (σ2 b) = o.lt a b

/-- `HomogCore` plus the law for `let mut best_residual = f64::INFINITY` (true in IEEE
arithmetic: `c²·∞ = ∞` for `c ≠ 0`). -/
structure Homog {α : Type} (o : Ops α) (σ σ2 : α → α) : Prop extends HomogCore o σ σ2 where
  inf : σ2 o.inf = o.inf

variable {α : Type} {o : Ops α} {σ σ2 : α → α}

theorem window_map (σ : α → α) (res : List α) (i off la : Nat) :
    window (res.map σ) i off la = (window res i off la).map σ := by
  simp only [window, List.map_drop, List.map_take]

theorem any_nonneg_map (h : HomogCore o σ σ2) (w : List α) :
    (w.map σ).any o.nonneg = w.any o.nonneg := by
  rw [List.any_map]; exact congrArg w.any (funext h.nonneg)

theorem stepVal_map (h : HomogCore o σ σ2) (w rw : List α) :
    stepVal o (w.map σ) rw = σ (stepVal o w rw) := by
  have hz : List.zipWith o.div (w.map σ) rw = (List.zipWith o.div w rw).map σ := by
    simp only [List.zipWith_map_left, List.map_zipWith, h.div]
  unfold stepVal
  rw [hz]
  cases List.zipWith o.div w rw with
  | nil => exact h.zero.symm
  | cons x xs => exact List.foldl_map.trans (List.foldl_hom σ fun a b => h.min a b)

theorem subScaled_map (h : HomogCore o σ σ2) (v : α) (ss rs : List α) :
    subScaled o (σ v) (ss.map σ) rs = (subScaled o v ss rs).map σ := by
  induction ss generalizing rs with
  | nil => cases rs <;> rfl
  | cons s ss ih => cases rs <;> simp [subScaled, ih, h.sub_mul]

theorem applyAt_map (h : HomogCore o σ σ2) (res resp : List α) (i : Nat) (v : α) :
    applyAt o (res.map σ) resp i (σ v) = (applyAt o res resp i v).map σ := by
  simp only [applyAt, List.map_append, List.map_take, List.map_drop, ← subScaled_map h]

theorem naive_map (h : HomogCore o σ σ2) (resp : List α) (off la i : Nat) (res inp : List α) :
    naive o resp off la i (res.map σ) (inp.map σ)
      = ((naive o resp off la i res inp).1.map σ, (naive o resp off la i res inp).2.map σ) := by
  fun_induction naive o resp off la i res inp with
  | case1 i res inp hb hany ih =>
    rw [naive_of_any o (by simpa using hb) (by rwa [window_map, any_nonneg_map h]), ih]
  | case2 i res inp hb hany ih =>
    rw [naive_of_not_any o (by simpa using hb) (by simpa [window_map, any_nonneg_map h] using hany),
      window_map, stepVal_map h, applyAt_map h, ← List.map_set, ih]
  | case3 i res inp hb => rw [naive_oob o (by simpa using hb)]

theorem sumSq_map (h : HomogCore o σ σ2) (res : List α) :
    sumSq o (res.map σ) = σ2 (sumSq o res) := by
  rw [sumSq, List.foldl_map, ← h.sumInit]
  exact List.foldl_hom σ2 fun acc x => by rw [h.sq, h.add2]

/-- How the result triple `(residual vector, sum of squares, input)` is scaled. -/
def mapTriple (σ σ2 : α → α) (t : List α × α × List α) : List α × α × List α :=
  (t.1.map σ, σ2 t.2.1, t.2.2.map σ)

/-- `nn_greedy_deconvolution` (either loop) is homogeneous: same panics (the guards do not look at
the samples); residual vector and recovered input scaled elementwise (so no index changes), sum of
squares scaled by `σ2`. -/
theorem deconv_scale_nn (h : HomogCore o σ σ2) (b : Bool) (signal resp : List α) (off la : Nat) :
    nnGreedy o b (signal.map σ) resp off la
      = omap (mapTriple σ σ2) (nnGreedy o b signal resp off la) := by
  have hloop : loopResult o b (signal.map σ) resp off la
      = ((loopResult o b signal resp off la).1.map σ,
         (loopResult o b signal resp off la).2.map σ) := by
    rw [loopResult_eq_naive, loopResult_eq_naive, List.length_map, ← naive_map h,
      List.map_replicate, h.zero]
  simp only [nnGreedy, List.length_map, hloop, sumSq_map h, apply_ite (omap _), omap_ok, omap_panic,
    mapTriple]

theorem lsLoop_scale (h : HomogCore o σ σ2) (b : Bool) (signal resp : List α)
    (g : List (Nat × Nat)) (r : α) (best : List α) :
    lsLoop o b (signal.map σ) resp g (σ2 r) (best.map σ)
      = omap (List.map σ) (lsLoop o b signal resp g r best) := by
  induction g generalizing r best with
  | nil => rfl
  | cons p rest ih =>
    simp only [lsLoop, deconv_scale_nn h]
    cases nnGreedy o b signal resp p.1 p.2 with
    | ok t =>
      simp only [omap_ok, mapTriple, h.lt2]
      split
      · exact ih _ _
      · exact ih r best
    | err e => rfl
    | panic s => rfl

/-- `ls_deconvolution` is homogeneous: scaling every sample of the signal by `σ` scales every
recovered amplitude by `σ` and changes no index (and panics at the same site if at all).
(`padDeconv`, `wireDeconv`, `lsDeconv` unfold to it.) -/
theorem deconv_scale (h : Homog o σ σ2) (b : Bool) (signal resp : List α)
    (offLo offHi laLo laHi : Nat) :
    lsDeconvWith o b (signal.map σ) resp offLo offHi laLo laHi
      = omap (List.map σ) (lsDeconvWith o b signal resp offLo offHi laLo laHi) := by
  have := lsLoop_scale h.toHomogCore b signal resp (grid offLo offHi laLo laHi) o.inf []
  rwa [h.inf] at this

theorem deconv_scale_ls (h : Homog o σ σ2) (signal resp : List α) (offLo offHi laLo laHi : Nat) :
    lsDeconv o (signal.map σ) resp offLo offHi laLo laHi
      = omap (List.map σ) (lsDeconv o signal resp offLo offHi laLo laHi) :=
  deconv_scale h true signal resp offLo offHi laLo laHi

theorem sequence_omap {ε β γ : Type} (f : β → γ) (l : List (Outcome ε β)) :
    sequence (l.map (omap f)) = omap (List.map f) (sequence l) := by
  induction l with
  | nil => rfl
  | cons x xs ih =>
    cases x with
    | ok a =>
      simp only [List.map_cons, omap_ok, sequence, ih]
      cases sequence xs <;> rfl
    | err e => rfl
    | panic s => rfl

theorem maxLen_map (σ : α → α) (signals : List (List α)) :
    maxLen (signals.map (List.map σ)) = maxLen signals := by
  induction signals with
  | nil => rfl
  | cons s ss ih => simp [maxLen, ih]

/-- `y_matrix` of the scaled signals is `σ` of `y_matrix` entrywise (`σ 0.0 = 0.0` for the
padding of short channels). -/
theorem yMatrix_map (h : HomogCore o σ σ2) (signals : List (List α)) :
    yMatrix o (signals.map (List.map σ)) = fun r c => σ (yMatrix o signals r c) := by
  funext r c
  simp only [yMatrix, List.getD_eq_getElem?_getD, List.getElem?_map]
  cases signals[c]? with
  | none => simp [h.zero]
  | some s => cases hs : s[r]? <;> simp [hs, h.zero]

/-- Scaling of one block `[(wire, signal)]`: the wire numbers are untouched. -/
def mapBlock (σ : α → α) (block : List (Nat × List α)) : List (Nat × List α) :=
  block.map fun p => (p.1, p.2.map σ)

/-- The per-block wire deconvolution is homogeneous provided the linear solve (`faer`'s in-place
`Y·A⁻¹`, a parameter of the model) commutes with `σ` entrywise. -/
theorem deconv_scale_wires (h : Homog o σ σ2)
    (cholSolve : Nat → Nat → (Nat → Nat → α) → (Nat → Nat → α))
    (hc : ∀ i j y r c, cholSolve i j (fun r c => σ (y r c)) r c = σ (cholSolve i j y r c))
    (wireResp : List α) (block : List (Nat × List α)) :
    wireRangeDeconv o cholSolve wireResp (mapBlock σ block)
      = omap (mapBlock σ) (wireRangeDeconv o cholSolve wireResp block) := by
  have h1 : (mapBlock σ block).map Prod.snd = (block.map Prod.snd).map (List.map σ) := by
    simp [mapBlock, List.map_map, Function.comp_def]
  have h2 : (mapBlock σ block).map Prod.fst = block.map Prod.fst := by
    simp [mapBlock, List.map_map, Function.comp_def]
  have hsig : wireSignalsDeconv o cholSolve wireResp ((block.map Prod.snd).map (List.map σ))
      = omap (List.map (List.map σ))
          (wireSignalsDeconv o cholSolve wireResp (block.map Prod.snd)) := by
    unfold wireSignalsDeconv
    simp only [List.isEmpty_map, List.length_map, maxLen_map, yMatrix_map h.toHomogCore, hc]
    split
    · rfl
    · rw [← sequence_omap, List.map_map]
      refine congrArg sequence (List.map_congr_left fun column _ => ?_)
      exact (congrArg _ (List.map_map ..).symm).trans (deconv_scale h true _ wireResp 0 1 3 12)
  rw [wireRangeDeconv, h1, h2, hsig, wireRangeDeconv]
  cases wireSignalsDeconv o cholSolve wireResp (block.map Prod.snd) with
  | ok sol => exact congrArg Outcome.ok List.zip_map_right
  | err e => rfl
  | panic s => rfl

section field
variable {F : Type} [Field F] [LE F] [LT F] [LawfulOrderLT F] [IsLinearOrder F] [OrderedRing F]
  [DecidableLT F] [DecidableLE F]

theorem homog_of_pos (top c : F) (hc : 0 < c) :
    HomogCore (fieldOps top) (c * ·) (c * c * ·) where
  zero := by simp only [fieldOps_zero]; grind
  sub_mul := by intro a v r; simp only [fieldOps_sub, fieldOps_mul]; grind
  div := by
    intro a r; simp only [fieldOps_div, Field.div_eq_mul_inv]; grind
  min := by
    intro a b
    simp only [fieldOps_min, Field.IsOrdered.mul_lt_mul_iff_of_pos_left hc]
    split <;> rfl
  nonneg := by
    intro a
    simp only [fieldOps_le, fieldOps_zero]
    have : (0 : F) ≤ c * a ↔ 0 ≤ a := by
      have := Field.IsOrdered.mul_le_mul_iff_of_pos_left (a := 0) (b := a) hc
      rwa [Semiring.mul_zero] at this
    simp only [this]
  sq := by intro a; simp only [fieldOps_mul]; grind
  add2 := by intro a b; simp only [fieldOps_add]; grind
  sumInit := by simp only [fieldOps_sumInit]; grind
  lt2 := by
    intro a b
    simp only [fieldOps_lt,
      Field.IsOrdered.mul_lt_mul_iff_of_pos_left (OrderedRing.mul_pos hc hc)]

/-- Field-level `ls_deconvolution` scaling. `top` stands for `f64::INFINITY`; a field has no
largest element, so the hypothesis says what `+∞` is used for: the sum of squared residuals of
the *first* grid point, for the signal and for the scaled signal, is `< top` (so that it replaces
the initial best in both sweeps; from then on only `HomogCore` is needed). -/
theorem deconv_scale_field_first (top c : F) (hc : 0 < c) (b : Bool) (signal resp : List F)
    (offLo offHi laLo laHi : Nat)
    (h1 : ∀ p, (grid offLo offHi laLo laHi).head? = some p → ∀ res r inp,
      nnGreedy (fieldOps top) b signal resp p.1 p.2 = .ok (res, r, inp) → r < top)
    (h2 : ∀ p, (grid offLo offHi laLo laHi).head? = some p → ∀ res r inp,
      nnGreedy (fieldOps top) b (signal.map (c * ·)) resp p.1 p.2 = .ok (res, r, inp) → r < top) :
    lsDeconvWith (fieldOps top) b (signal.map (c * ·)) resp offLo offHi laLo laHi
      = omap (List.map (c * ·))
          (lsDeconvWith (fieldOps top) b signal resp offLo offHi laLo laHi) := by
  have h := homog_of_pos top c hc
  unfold lsDeconvWith
  generalize grid offLo offHi laLo laHi = g at h1 h2
  cases g with
  | nil => rfl
  | cons p rest =>
    have h1' := h1 p rfl
    have h2' := h2 p rfl
    simp only [deconv_scale_nn h] at h2'
    simp only [lsLoop, deconv_scale_nn h]
    cases hnn : nnGreedy (fieldOps top) b signal resp p.1 p.2 with
    | ok t =>
      have e1 := h1' _ _ _ hnn
      have e2 := h2' _ _ _ (by rw [hnn]; rfl)
      simp only [omap_ok, mapTriple, fieldOps_inf, fieldOps_lt, e1, e2, decide_true, if_true]
      exact lsLoop_scale h b signal resp rest _ _
    | err e => rfl
    | panic s => rfl

end field

/-- Adjoin one element `none` standing for `+∞` to a carrier: arithmetic is strict in it, and it
is larger than everything else. (A coarse stand-in for the IEEE infinities, enough to show that
the `inf` law is compatible with the others.) -/
def liftOps {α : Type} (o : Ops α) : Ops (Option α) where
  zero := some o.zero
  inf := none
  sumInit := some o.sumInit
  add := fun a b => match a, b with | some x, some y => some (o.add x y) | _, _ => none
  sub := fun a b => match a, b with | some x, some y => some (o.sub x y) | _, _ => none
  mul := fun a b => match a, b with | some x, some y => some (o.mul x y) | _, _ => none
  div := fun a b => match a, b with | some x, some y => some (o.div x y) | _, _ => none
  min := fun a b => match a, b with | some x, some y => some (o.min x y) | _, _ => none
  lt := fun a b => match a, b with
    | some x, some y => o.lt x y | some _, none => true | none, _ => false
  le := fun a b => match a, b with
    | some x, some y => o.le x y | _, none => true | none, some _ => false

/-- Every `HomogCore` instance extends to a full `Homog` instance on the carrier with `+∞`: on
`some`s each law is the law of `o`, and when an argument is `none` both sides reduce to the same
constant. -/
theorem homog_lift {α : Type} {o : Ops α} {σ σ2 : α → α} (h : HomogCore o σ σ2) :
    Homog (liftOps o) (Option.map σ) (Option.map σ2) where
  zero := congrArg some h.zero
  sub_mul
    | some a, some v, some r => congrArg some (h.sub_mul a v r)
    | none, _, _ | some _, none, _ | some _, some _, none => rfl
  div
    | some a, some r => congrArg some (h.div a r)
    | none, _ | some _, none => rfl
  min
    | some a, some b => congrArg some (h.min a b)
    | none, _ | some _, none => rfl
  nonneg
    | some a => h.nonneg a
    | none => rfl
  sq
    | some a => congrArg some (h.sq a)
    | none => rfl
  add2
    | some a, some b => congrArg some (h.add2 a b)
    | none, _ | some _, none => rfl
  sumInit := congrArg some h.sumInit
  lt2
    | some a, some b => h.lt2 a b
    | none, _ | some _, none => rfl
  inf := rfl

/-- Non-vacuity of `deconv_scale`: rationals with `+∞`, factor `2`. -/
example : Homog (liftOps (fieldOps (0 : Rat))) (Option.map (2 * ·)) (Option.map (2 * 2 * ·)) :=
  homog_lift (homog_of_pos 0 2 (by decide))

/-- Non-vacuity: the laws of `HomogCore` hold over `Rat` for the factor `2`. (The full `Homog` cannot
hold over a field itself for `c² ≠ 1`, `top ≠ 0`: it would say `c²·top = top`.) -/
example : HomogCore (fieldOps (1000 : Rat)) (2 * ·) (2 * 2 * ·) :=
  homog_of_pos 1000 2 (by decide)

end AlphaG.Deconv
