import AlphaG.Lemmas.RangesLin
/-
Theorems on the ring logic of `contiguous_ranges` (model `AlphaG/Model/Ranges.lean`, spec
`AlphaG/Lemmas/RangesSpec.lean`). The occupancy is read as the periodic function `occAt occ`;
cover and disjointness come from the linear runs through the merge, the ring specification
from the linear runs at the seam, rotation from the invariance of the specification.
-/
namespace AlphaG.Ranges

theorem occAt_add_length (occ : List Bool) (i : Nat) : occAt occ (i + occ.length) = occAt occ i := by
  unfold occAt; rw [Nat.add_mod_right]

theorem occAt_mod (occ : List Bool) (i : Nat) : occAt occ (i % occ.length) = occAt occ i := by
  unfold occAt; rw [Nat.mod_mod]

theorem occAt_of_lt (occ : List Bool) {i : Nat} (h : i < occ.length) :
    occAt occ i = occ.getD i false := by
  unfold occAt; rw [Nat.mod_eq_of_lt h]

theorem occ_eq_map (occ : List Bool) : occ = (List.range' 0 occ.length).map (occAt occ) := by
  apply List.ext_getElem (by simp)
  intro j h1 _
  simp [occAt_of_lt occ h1, List.getD_eq_getElem?_getD, List.getElem?_eq_getElem h1]

theorem scan_occ (occ : List Bool) : IsRuns (occAt occ) 0 occ.length (scan occ 0 none) := by
  have := scan_isRuns (occAt occ) occ.length 0 none (fun _ h => nomatch h)
  rwa [← occ_eq_map, Nat.zero_add] at this

/-- every occupied wire is in some block and every index of a block is an occupied wire (full occupancy included) -/
theorem ranges_cover (occ : List Bool) (w : Nat) :
    (w < occ.length ∧ occ.getD w false = true) ↔ ∃ r ∈ contiguousRanges occ, w ∈ rangeToIndices occ.length r := by
  have h := scan_occ occ
  have := (indices_mergeRing occ.length _ h.sorted h.bounds).mem_iff (a := w)
  rw [h.mem_flatMap_indices, List.mem_flatMap] at this
  exact Iff.trans (and_congr_right fun hw => by rw [occAt_of_lt occ hw]) this.symm

/-- blocks are pairwise disjoint and duplicate free (full occupancy included) -/
theorem ranges_disjoint (occ : List Bool) :
    ((contiguousRanges occ).flatMap (rangeToIndices occ.length)).Nodup :=
  have h := scan_occ occ
  (indices_mergeRing occ.length _ h.sorted h.bounds).nodup_iff.2 h.nodup_indices

theorem indices_ne_nil (occ : List Bool) (r : Nat × Nat) (hr : r ∈ contiguousRanges occ) :
    rangeToIndices occ.length r ≠ [] := by
  have h := scan_occ occ
  have hlt : r.1 < occ.length := by
    rcases mergeRing_cases occ.length _ h.sorted h.bounds with ⟨hm, _⟩ | ⟨e, mid, s, hL, hm⟩
    · have := h.bounds r (hm ▸ hr); omega
    · rw [hL] at h
      rcases List.mem_append.1 (hm.mem_iff.1 hr) with hr | hr
      · have := h.bounds r (by simp [hr]); omega
      · rw [List.mem_singleton] at hr
        have := h.bounds (s, occ.length) (by simp)
        rw [hr]; exact this.1
  have hmem : r.1 ∈ rangeToIndices occ.length r := by
    rw [mem_indices]
    split
    · exact ⟨Nat.le_refl _, ‹r.1 < r.2›⟩
    · exact Or.inl ⟨Nat.le_refl _, hlt⟩
  exact List.ne_nil_of_mem hmem

/-- end of a run of `len` wires from `s` in the code's convention -/
def mkEnd (n s len : Nat) : Nat := if s + len ≤ n then s + len else s + len - n

/-- a maximal ring run of exactly `len` wires starts at `s` -/
structure RunLen (occ : List Bool) (s len : Nat) : Prop where
  lt : s < occ.length
  pred : occAt occ (s + occ.length - 1) = false
  pos : 0 < len
  on : ∀ d, d < len → occAt occ (s + d) = true
  succ : occAt occ (s + len) = false

theorem isRingRun_iff (occ : List Bool) (r : Nat × Nat) :
    IsRingRun occ r ↔ ∃ len, RunLen occ r.1 len ∧ r.2 = mkEnd occ.length r.1 len :=
  ⟨fun ⟨h1, h2, len, h3, h4, h5, h6⟩ => ⟨len, ⟨h1, h2, h3, h4, h5⟩, h6⟩,
   fun ⟨len, ⟨h1, h2, h3, h4, h5⟩, h6⟩ => ⟨h1, h2, len, h3, h4, h5, h6⟩⟩

/-- a maximal linear run that is not glued to another one across the seam -/
theorem LinRun.ring {occ : List Bool} {s e : Nat} (h : LinRun (occAt occ) 0 occ.length s e)
    (c1 : s = 0 → occAt occ (occ.length - 1) = false) (c2 : e = occ.length → occAt occ 0 = false) :
    IsRingRun occ (s, e) := by
  have hlt := h.lt
  have hle := h.le_hi
  refine (isRingRun_iff occ (s, e)).2 ⟨e - s, ?_, ?_⟩
  · refine { lt := by omega, pos := by omega, pred := ?_,
             on := fun d hd => h.on _ (by omega) (by omega), succ := ?_ }
    · by_cases hs : s = 0
      · rw [hs, Nat.zero_add]; exact c1 hs
      · rw [show s + occ.length - 1 = s - 1 + occ.length by omega, occAt_add_length]
        exact h.left.resolve_left hs
    · show occAt occ (s + (e - s)) = false
      rw [show s + (e - s) = e by omega]
      by_cases he : e = occ.length
      · rw [he, ← Nat.zero_add occ.length, occAt_add_length]; exact c2 he
      · exact h.right.resolve_left he
  · show e = _
    rw [mkEnd, if_pos (by omega)]; omega

/-- the run ending at the seam and the run starting there, glued -/
theorem LinRun.wrap {occ : List Bool} {s e : Nat} (h0 : LinRun (occAt occ) 0 occ.length 0 e)
    (h1 : LinRun (occAt occ) 0 occ.length s occ.length) (hes : e < s) : IsRingRun occ (s, e) := by
  have := h0.lt
  have hs := h1.lt
  refine (isRingRun_iff occ (s, e)).2 ⟨occ.length - s + e, ?_, ?_⟩
  · refine { lt := hs, pos := by omega, pred := ?_, on := fun d hd => ?_, succ := ?_ }
    · rw [show s + occ.length - 1 = s - 1 + occ.length by omega, occAt_add_length]
      exact h1.left.resolve_left (by omega)
    · by_cases hd' : s + d < occ.length
      · exact h1.on _ (by omega) hd'
      · show occAt occ (s + d) = true
        rw [show s + d = s + d - occ.length + occ.length by omega, occAt_add_length]
        exact h0.on _ (Nat.zero_le _) (by omega)
    · show occAt occ (s + (occ.length - s + e)) = false
      rw [show s + (occ.length - s + e) = e + occ.length by omega, occAt_add_length]
      exact h0.right.resolve_left (by omega)
  · show e = _
    rw [mkEnd, if_neg (by omega)]; omega

theorem notfull_iff (occ : List Bool) :
    false ∈ occ ↔ ∃ z, z < occ.length ∧ occAt occ z = false := by
  rw [List.mem_iff_getElem]
  refine exists_congr fun z => ⟨fun ⟨h, hz⟩ => ⟨h, ?_⟩, fun ⟨h, hz⟩ => ⟨h, ?_⟩⟩
  · rw [occAt_of_lt occ h, List.getD_eq_getElem?_getD, List.getElem?_eq_getElem h, hz]; rfl
  · rw [occAt_of_lt occ h, List.getD_eq_getElem?_getD, List.getElem?_eq_getElem h] at hz
    exact hz

/-- Not full → every listed range is a maximal ring run. If the merge did nothing, a linear run
can fail to be a ring run only at the seam: it starts at `0` with wire `n − 1` occupied (or ends at
`n` with wire `0` occupied). The linear run covering that wire ends at `n` (starts at `0`), so the
merge would have glued the two (second conjunct of `mergeRing_cases`) unless they are one run
`(0, n)`, which `hnf` excludes. If the merge glued `(s, n)` and `(0, e)`, that is `LinRun.wrap`, and
the other runs lie strictly between `e` and `s`, away from the seam. -/
theorem ranges_sound (occ : List Bool) (hnf : false ∈ occ) (r : Nat × Nat)
    (hr : r ∈ contiguousRanges occ) : IsRingRun occ r := by
  have h := scan_occ occ
  have hnf' : ¬ LinRun (occAt occ) 0 occ.length 0 occ.length := by
    intro hf
    obtain ⟨z, hz, hfz⟩ := (notfull_iff occ).1 hnf
    exact Bool.eq_false_iff.1 hfz (hf.on z (Nat.zero_le _) hz)
  unfold contiguousRanges at hr
  rcases mergeRing_cases occ.length _ h.sorted h.bounds with ⟨hm, hno⟩ | ⟨e, mid, s, hL, hm⟩
  · rw [hm] at hr
    have hrun := h.run r hr
    refine hrun.ring (fun hs => Bool.eq_false_iff.2 fun ht => ?_)
      (fun he => Bool.eq_false_iff.2 fun ht => ?_)
    · obtain ⟨b, hb, hb1, hb2⟩ := h.cover (occ.length - 1) (Nat.zero_le _)
        (by have := hrun.lt; have := hrun.le_hi; omega) ht
      have hbn : b.2 = occ.length := by have := (h.run b hb).le_hi; omega
      refine hno ⟨r, hr, b, hb, fun hrb => hnf' ?_, hs, hbn⟩
      rw [hs, hrb, hbn] at hrun; exact hrun
    · obtain ⟨a, ha, ha1, ha2⟩ := h.cover 0 (Nat.zero_le _)
        (by have := hrun.lt; have := hrun.le_hi; omega) ht
      refine hno ⟨a, ha, r, hr, fun har => hnf' ?_, Nat.le_zero.1 ha1, he⟩
      rw [he, ← har, Nat.le_zero.1 ha1] at hrun; exact hrun
  · rw [hL] at h
    rcases List.mem_append.1 (hm.mem_iff.1 hr) with hr | hr
    · have hrL : r ∈ (0, e) :: (mid ++ [(s, occ.length)]) := by simp [hr]
      have hs := h.sorted
      simp only [List.pairwise_cons, List.pairwise_append, List.mem_append, List.mem_cons,
        List.not_mem_nil, or_false] at hs
      have h1 := hs.1 r (Or.inl hr)
      have h2 := hs.2.2.2 r hr _ rfl
      have h3 := (h.run (s, occ.length) (by simp)).lt
      exact (h.run r hrL).ring (by intro; omega) (by intro; omega)
    · rw [List.mem_singleton] at hr
      subst hr
      exact (h.run (0, e) (by simp)).wrap (h.run (s, occ.length) (by simp))
        ((List.pairwise_cons.1 h.sorted).1 (s, occ.length) (by simp))

theorem runLen_lt {occ : List Bool} {s len : Nat} (h : RunLen occ s len) : len < occ.length := by
  apply Classical.byContradiction
  intro hc
  have := h.on (occ.length - 1) (by have := h.lt; omega)
  rw [show s + (occ.length - 1) = s + occ.length - 1 by have := h.lt; omega] at this
  exact Bool.eq_false_iff.1 h.pred this

theorem runLen_unique {occ : List Bool} {s l1 l2 : Nat} (h : RunLen occ s l1)
    (h' : RunLen occ s l2) : l1 = l2 := by
  apply Classical.byContradiction
  intro hc
  by_cases hlt : l1 < l2
  · exact Bool.eq_false_iff.1 h.succ (h'.on l1 hlt)
  · exact Bool.eq_false_iff.1 h'.succ (h.on l2 (by omega))

theorem ringSeq_mk (n s len : Nat) (hs : s < n) (h0 : 0 < len) (hl : len ≤ n) :
    rangeToIndices n (s, mkEnd n s len) = ringSeq n s len ∧
      rangeToLen n (s, mkEnd n s len) = len := by
  unfold mkEnd rangeToIndices rangeToLen ringSeq
  by_cases h : s + len ≤ n
  · simp only [if_pos h]
    rw [if_pos (by omega), if_pos (by omega)]
    refine ⟨?_, by omega⟩
    rw [show s + len - s = len by omega, List.range'_eq_map_range]
    exact List.map_congr_left fun d hd => by
      rw [List.mem_range] at hd; rw [Nat.mod_eq_of_lt (by omega)]
  · simp only [if_neg h]
    rw [if_neg (by omega), if_neg (by omega)]
    refine ⟨?_, by omega⟩
    rw [show len = (n - s) + (s + len - n) by omega, List.range_add, List.map_append, List.map_map,
      show n - s + (s + len - n) = len by omega, List.range'_eq_map_range, List.range'_eq_map_range]
    congr 1
    · exact List.map_congr_left fun d hd => by
        rw [List.mem_range] at hd; rw [Nat.mod_eq_of_lt (by omega)]
    · exact List.map_congr_left fun d hd => by
        rw [List.mem_range] at hd
        show 0 + d = (s + (n - s + d)) % n
        rw [show s + (n - s + d) = d + n by omega, Nat.add_mod_right, Nat.mod_eq_of_lt (by omega)]
        omega

theorem ringRun_indices {occ : List Bool} {r : Nat × Nat} (h : IsRingRun occ r) :
    RunLen occ r.1 (rangeToLen occ.length r) ∧
      r.2 = mkEnd occ.length r.1 (rangeToLen occ.length r) ∧
      rangeToIndices occ.length r = ringSeq occ.length r.1 (rangeToLen occ.length r) := by
  obtain ⟨len, h, he⟩ := (isRingRun_iff occ r).1 h
  have := ringSeq_mk occ.length r.1 len h.lt h.pos (Nat.le_of_lt (runLen_lt h))
  rw [← he] at this
  rw [this.2]
  exact ⟨h, he, this.1⟩

theorem ringRun_ext {occ : List Bool} {a b : Nat × Nat} (ha : IsRingRun occ a)
    (hb : IsRingRun occ b) (h : a.1 = b.1) : a = b := by
  obtain ⟨la, ea, _⟩ := ringRun_indices ha
  obtain ⟨lb, eb, _⟩ := ringRun_indices hb
  rw [h] at la
  exact Prod.ext h (by rw [ea, eb, h, runLen_unique la lb])

theorem mem_ringSeq {n s len w : Nat} : w ∈ ringSeq n s len ↔ ∃ d, d < len ∧ (s + d) % n = w := by
  simp [ringSeq]

/-- a wire of a ring run whose ring predecessor is free is the start of the run -/
theorem RunLen.start {occ : List Bool} {s len d : Nat} (h : RunLen occ s len) (hd : d < len)
    (hp : occAt occ ((s + d) % occ.length + occ.length - 1) = false) : d = 0 := by
  apply Classical.byContradiction
  intro hd0
  have := h.on (d - 1) (by omega)
  have e : occAt occ ((s + d) % occ.length + occ.length - 1) = occAt occ (s + (d - 1)) := by
    have := h.lt
    unfold occAt
    rw [show (s + d) % occ.length + occ.length - 1 = (s + d) % occ.length + (occ.length - 1) by omega,
      Nat.mod_add_mod, show s + d + (occ.length - 1) = s + (d - 1) + occ.length by omega,
      Nat.add_mod_right]
  rw [e] at hp
  exact Bool.eq_false_iff.1 hp this

theorem nodup_of_nodup_flatMap {β γ : Type} {l : List β} {f : β → List γ}
    (h : (l.flatMap f).Nodup) (hne : ∀ a ∈ l, f a ≠ []) : l.Nodup := by
  rw [List.Nodup, List.pairwise_flatMap] at h
  refine h.2.imp_of_mem ?_
  intro a b ha _ hab heq
  obtain ⟨x, hx⟩ := List.exists_mem_of_ne_nil _ (hne a ha)
  exact hab x hx x (heq ▸ hx) rfl

/-- not full → the ranges are, up to permutation, exactly the maximal runs on the ring -/
theorem ranges_spec (occ : List Bool) (hnf : false ∈ occ) :
    (∀ r, r ∈ contiguousRanges occ ↔ IsRingRun occ r) ∧ (contiguousRanges occ).Nodup := by
  constructor
  · refine fun r => ⟨ranges_sound occ hnf r, fun hr => ?_⟩
    obtain ⟨hl, _⟩ := ringRun_indices hr
    -- the block that holds the start of the run `r` is `r`
    obtain ⟨r', hr', hw⟩ := (ranges_cover occ r.1).1
      ⟨hl.lt, by rw [← occAt_of_lt occ hl.lt]; exact hl.on 0 hl.pos⟩
    have hrun' := ranges_sound occ hnf r' hr'
    obtain ⟨hl', _, hi'⟩ := ringRun_indices hrun'
    rw [hi', mem_ringSeq] at hw
    obtain ⟨d, hd, hw⟩ := hw
    have hd0 := hl'.start hd (by rw [hw]; exact hl.pred)
    rw [hd0, Nat.add_zero, Nat.mod_eq_of_lt hl'.lt] at hw
    exact ringRun_ext hrun' hr hw ▸ hr'
  · exact nodup_of_nodup_flatMap (ranges_disjoint occ) (indices_ne_nil occ)

/-- not full → each block is maximal: the ring predecessor of its first wire and the ring successor of its last wire are free -/
theorem ranges_maximal (occ : List Bool) (hnf : false ∈ occ) (r : Nat × Nat) (hr : r ∈ contiguousRanges occ) :
    occAt occ (r.1 + occ.length - 1) = false ∧ occAt occ (r.1 + rangeToLen occ.length r) = false :=
  have h := (ringRun_indices (ranges_sound occ hnf r hr)).1
  ⟨h.pred, h.succ⟩

theorem length_rotOcc (k : Nat) (occ : List Bool) : (rotOcc k occ).length = occ.length := by
  simp [rotOcc]

/-- shifting by `k` and then by `n - k % n` is a whole number of turns -/
theorem add_unshift (n k : Nat) (hn : 0 < n) : k + (n - k % n) = n * (k / n + 1) := by
  have h1 := Nat.mod_add_div k n
  have h2 := Nat.mod_lt k hn
  rw [Nat.mul_add, Nat.mul_one]; omega

theorem rot_mod (n i k : Nat) (hn : 0 < n) : ((i + k) % n + n - k % n) % n = i % n := by
  rw [Nat.add_sub_assoc (Nat.le_of_lt (Nat.mod_lt k hn)), Nat.mod_add_mod, Nat.add_assoc,
    add_unshift n k hn, Nat.add_mul_mod_self_left]

theorem exists_unshift (n i k : Nat) (hi : i < n) : ∃ s, s < n ∧ (s + k) % n = i := by
  have hn : 0 < n := by omega
  refine ⟨(i + n - k % n) % n, Nat.mod_lt _ hn, ?_⟩
  rw [Nat.add_sub_assoc (Nat.le_of_lt (Nat.mod_lt k hn)), Nat.mod_add_mod, Nat.add_assoc,
    Nat.add_comm _ k, add_unshift n k hn, Nat.add_mul_mod_self_left, Nat.mod_eq_of_lt hi]

theorem occAt_rot (occ : List Bool) (k i : Nat) :
    occAt (rotOcc k occ) (i + k) = occAt occ i := by
  by_cases hn : occ.length = 0
  · rw [List.eq_nil_of_length_eq_zero hn]; rfl
  · have hw := Nat.mod_lt (i + k) (Nat.pos_of_ne_zero hn)
    unfold occAt
    rw [length_rotOcc, ← rot_mod _ i k (Nat.pos_of_ne_zero hn)]
    simp [rotOcc, List.getD_eq_getElem?_getD, List.getElem?_map, List.getElem?_range hw]

theorem occAt_rot_add (occ : List Bool) (k s x : Nat) :
    occAt (rotOcc k occ) ((s + k) % occ.length + x) = occAt occ (s + x) := by
  rw [← occAt_rot occ k (s + x)]
  unfold occAt
  rw [length_rotOcc, Nat.mod_add_mod, show s + k + x = s + x + k by omega]

theorem runLen_rot (occ : List Bool) (k s len : Nat) (hs : s < occ.length) :
    RunLen (rotOcc k occ) ((s + k) % occ.length) len ↔ RunLen occ s len := by
  have e := occAt_rot_add occ k s
  have ep : occAt (rotOcc k occ) ((s + k) % occ.length + (rotOcc k occ).length - 1)
      = occAt occ (s + occ.length - 1) := by
    rw [length_rotOcc, Nat.add_sub_assoc (by omega), e, Nat.add_sub_assoc (by omega)]
  exact ⟨fun h => ⟨hs, ep ▸ h.pred, h.pos, fun d hd => e d ▸ h.on d hd, e len ▸ h.succ⟩,
    fun h => ⟨by rw [length_rotOcc]; exact Nat.mod_lt _ (by omega), ep ▸ h.pred, h.pos,
      fun d hd => e d ▸ h.on d hd, e len ▸ h.succ⟩⟩

theorem notfull_rot (occ : List Bool) (k : Nat) (hnf : false ∈ occ) : false ∈ rotOcc k occ := by
  obtain ⟨z, hz, hfz⟩ := (notfull_iff occ).1 hnf
  rw [← occAt_rot occ k z, ← occAt_mod] at hfz
  exact (notfull_iff _).2
    ⟨(z + k) % (rotOcc k occ).length, Nat.mod_lt _ (by rw [length_rotOcc]; omega), hfz⟩

/-- a range moved `k` places round a ring of `n` -/
def shiftRange (n k : Nat) (r : Nat × Nat) : Nat × Nat :=
  ((r.1 + k) % n, mkEnd n ((r.1 + k) % n) (rangeToLen n r))

theorem shift_cancel (n k s1 s2 : Nat) (h1 : s1 < n) (h2 : s2 < n)
    (h : (s1 + k) % n = (s2 + k) % n) : s1 = s2 := by
  have a := rot_mod n s1 k (by omega)
  rw [h, rot_mod n s2 k (by omega), Nat.mod_eq_of_lt h1, Nat.mod_eq_of_lt h2] at a
  exact a.symm

theorem nodup_map_of_inj_on {β γ : Type} {l : List β} (f : β → γ) (hl : l.Nodup)
    (hf : ∀ a ∈ l, ∀ b ∈ l, f a = f b → a = b) : (l.map f).Nodup :=
  List.pairwise_map.2 (hl.imp_of_mem fun ha hb hne heq => hne (hf _ ha _ hb heq))

/-- invariance of the specification: the maximal runs of the rotated ring are the shifted ones -/
theorem isRingRun_rot (occ : List Bool) (k : Nat) (r' : Nat × Nat) :
    IsRingRun (rotOcc k occ) r' ↔ ∃ r, IsRingRun occ r ∧ shiftRange occ.length k r = r' := by
  constructor
  · intro h
    obtain ⟨len, l', e'⟩ := (isRingRun_iff _ r').1 h
    have hr1 := l'.lt
    rw [length_rotOcc] at hr1 e'
    obtain ⟨s, hs, hsk⟩ := exists_unshift occ.length r'.1 k hr1
    rw [← hsk] at l'
    have l := (runLen_rot occ k s len hs).1 l'
    refine ⟨(s, mkEnd occ.length s len), (isRingRun_iff occ _).2 ⟨len, l, rfl⟩, ?_⟩
    unfold shiftRange
    rw [(ringSeq_mk occ.length s len hs l.pos (Nat.le_of_lt (runLen_lt l))).2]
    exact Prod.ext hsk (hsk ▸ e'.symm)
  · rintro ⟨r, hr, rfl⟩
    obtain ⟨l, _⟩ := ringRun_indices hr
    exact (isRingRun_iff _ _).2
      ⟨_, (runLen_rot occ k r.1 _ l.lt).2 l, by rw [length_rotOcc]; rfl⟩

theorem ranges_rot_perm (occ : List Bool) (k : Nat) (hnf : false ∈ occ) :
    (contiguousRanges (rotOcc k occ)).Perm
      ((contiguousRanges occ).map (shiftRange occ.length k)) := by
  have sp := ranges_spec occ hnf
  have sp' := ranges_spec (rotOcc k occ) (notfull_rot occ k hnf)
  refine (List.perm_ext_iff_of_nodup sp'.2 ?_).2 fun r' => ?_
  · refine nodup_map_of_inj_on _ sp.2 fun a ha b hb heq => ?_
    have ra := (sp.1 a).1 ha
    have rb := (sp.1 b).1 hb
    exact ringRun_ext ra rb (shift_cancel _ k _ _ ra.1 rb.1 (congrArg Prod.fst heq))
  · rw [sp'.1 r', isRingRun_rot, List.mem_map]
    exact exists_congr fun r => and_congr_left' (sp.1 r).symm

theorem shiftBlock_ringSeq (n k s len : Nat) :
    shiftBlock n k (ringSeq n s len) = ringSeq n ((s + k) % n) len := by
  unfold ringSeq shiftBlock
  rw [List.map_map]
  exact List.map_congr_left fun d _ => by
    show ((s + d) % n + k) % n = ((s + k) % n + d) % n
    rw [Nat.mod_add_mod, Nat.mod_add_mod, show s + d + k = s + k + d by omega]

/-- not full → the blocks of the rotated occupancy are the shifted blocks, as the same sequences in ring order, up to permutation of the list of blocks -/
theorem ranges_rot (occ : List Bool) (k : Nat) (hnf : false ∈ occ) :
    (blocks (rotOcc k occ)).Perm ((blocks occ).map (shiftBlock occ.length k)) := by
  unfold blocks
  rw [length_rotOcc, List.map_map]
  refine ((ranges_rot_perm occ k hnf).map _).trans (List.Perm.of_eq ?_)
  rw [List.map_map]
  refine List.map_congr_left fun r hr => ?_
  obtain ⟨l, _, hi⟩ := ringRun_indices (((ranges_spec occ hnf).1 r).1 hr)
  show rangeToIndices occ.length (shiftRange occ.length k r) = shiftBlock _ k (rangeToIndices _ r)
  rw [hi, shiftBlock_ringSeq]
  exact (ringSeq_mk _ _ _ (Nat.mod_lt _ (by have := l.lt; omega)) l.pos (Nat.le_of_lt (runLen_lt l))).1

theorem scan_full (l : List Bool) : ∀ (i s0 : Nat), (∀ b, b ∈ l → b = true) →
    scan l i (some s0) = [(s0, i + l.length)] := by
  induction l with
  | nil => intro i s0 _; rfl
  | cons b rest ih =>
    intro i s0 h
    have hb : b = true := h b (by simp)
    subst hb
    simp only [scan]
    rw [ih (i + 1) s0 (fun b hb => h b (by simp [hb]))]
    simp; omega

/-- full occupancy: one linear block from wire 0 (the merge needs `len > 1`) -/
theorem full_ring_ranges (occ : List Bool) (hne : occ ≠ []) (hfull : ∀ b ∈ occ, b = true) :
    contiguousRanges occ = [(0, occ.length)] ∧ blocks occ = [List.range occ.length] := by
  have h1 : contiguousRanges occ = [(0, occ.length)] := by
    cases occ with
    | nil => exact absurd rfl hne
    | cons b rest =>
      have hb : b = true := hfull b (by simp)
      subst hb
      unfold contiguousRanges
      simp only [scan]
      rw [scan_full rest (0 + 1) 0 (fun b hb => hfull b (by simp [hb]))]
      simp [mergeRing]; omega
  refine ⟨h1, ?_⟩
  unfold blocks
  rw [h1]
  have hpos : 0 < occ.length := List.length_pos_iff.2 hne
  simp [rangeToIndices, hpos, List.range_eq_range']

/-! Non-vacuity and sanity examples: a non-full ring with a seam-crossing block. -/
example : false ∈ [true, true, false, true, false, true] := by decide
example : contiguousRanges [true, true, false, true, false, true] = [(3, 4), (5, 2)] := by decide
example : blocks [true, true, false, true, false, true] = [[3], [5, 0, 1]] := by decide
example : blocks (rotOcc 2 [true, true, false, true, false, true]) = [[1, 2, 3], [5]] := by decide
example : [true, true, true] ≠ [] ∧ ∀ b ∈ [true, true, true], b = true := by decide
example : contiguousRanges [true, true, true] = [(0, 3)] := by decide

end AlphaG.Ranges
