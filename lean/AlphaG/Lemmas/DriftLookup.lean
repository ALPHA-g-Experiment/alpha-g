import AlphaG.Lemmas.Drift
/-
The lookup functions in exact arithmetic: which branch is taken, and what the bracket search
returns. The equations need only the lengths (two knots, one slice), not the order of the entries.
-/
set_option linter.unusedSectionVars false

namespace AlphaG.Drift

variable {K : Type} [Field K] [LinearOrder K] [IsStrictOrderedRing K]

/-- The bracket search for a time within the tabulated range: `rhs_index ≥ 1` (so
`rhs_index - 1` does not underflow), `rhs_index < len`, and the two knots bracket `t`. -/
theorem rhs_bracket {tb : List (Knot K)} (hn : 2 ≤ tb.length) {t : K} (h0 : tFirst tb ≤ t)
    (h1 : t ≤ tLast tb) :
    1 ≤ rhsIndex (fieldOps K) tb t ∧ rhsIndex (fieldOps K) tb t < tb.length ∧
      (kn tb (rhsIndex (fieldOps K) tb t - 1)).t ≤ t ∧ t ≤ (kn tb (rhsIndex (fieldOps K) tb t)).t := by
  have hle : ∀ {j} (hj : j < tb.length), (fieldOps K).gt tb[j].t t = false → (kn tb j).t ≤ t :=
    fun hj h => by rw [kn_eq_getElem hj]; exact not_lt.1 (of_decide_eq_false h)
  unfold rhsIndex
  cases h : List.findIdx? (fun k => (fieldOps K).gt k.t t) tb with
  | none =>
    -- no knot is later than `t`: the last two bracket it
    rw [List.findIdx?_eq_none_iff] at h
    rw [Option.getD_none]
    exact ⟨by omega, by omega, hle (by omega) (h _ (List.getElem_mem _)), h1⟩
  | some i =>
    obtain ⟨hi, hp, hbefore⟩ := List.findIdx?_eq_some_iff_getElem.1 h
    have hp' : t < (kn tb i).t := by rw [kn_eq_getElem hi]; exact of_decide_eq_true hp
    have hi1 : 1 ≤ i := Nat.pos_of_ne_zero (by rintro rfl; exact (lt_of_le_of_lt h0 hp').false)
    rw [Option.getD_some]
    exact ⟨hi1, hi, hle (by omega) (eq_false_of_ne_true (hbefore (i - 1) (by omega))), hp'.le⟩

/-- `DriftTable::at` on a table with two knots or more: out of range on either side is the time
error, otherwise the interpolation between the bracketing knots found by the search. -/
theorem tableAt_eq {tb : List (Knot K)} (hn : 2 ≤ tb.length) (t : K) :
    tableAt (fieldOps K) tb t =
      if t < tFirst tb ∨ tLast tb < t then .err .driftTimeOutOfRange
      else .ok (interp (fieldOps K) (kn tb (rhsIndex (fieldOps K) tb t - 1))
        (kn tb (rhsIndex (fieldOps K) tb t)) t) := by
  have hc : ((fieldOps K).lt t (kn tb 0).t || (fieldOps K).gt t (kn tb (tb.length - 1)).t) = true
      ↔ t < tFirst tb ∨ tLast tb < t := by
    simp only [Ops.gt, fieldOps, tFirst, tLast, Bool.or_eq_true, decide_eq_true_eq]
  unfold tableAt
  rw [getElem?_kn (by omega : 0 < tb.length), getElem?_kn (by omega : tb.length - 1 < tb.length)]
  simp only [hc]
  by_cases hr : t < tFirst tb ∨ tLast tb < t
  · rw [if_pos hr, if_pos hr]
  · obtain ⟨k1, kn', -, -⟩ := rhs_bracket hn (not_lt.1 fun h => hr (Or.inl h))
      (not_lt.1 fun h => hr (Or.inr h))
    rw [if_neg hr, if_neg hr, if_neg (by omega), getElem?_kn (by omega), getElem?_kn kn']

theorem exists_inSlice {ts : List (Slice K)} (a : K) (h : a ≤ zMax ts) (hn : 1 ≤ ts.length) :
    ∃ i, i < ts.length ∧ InSlice ts i a := by
  -- least index whose bound is ≥ a
  have hex : ∃ i, i < ts.length ∧ a ≤ zb ts i := ⟨ts.length - 1, by omega, h⟩
  classical
  let i := Nat.find hex
  have hi := Nat.find_spec hex
  refine ⟨i, hi.1, hi.2, ?_⟩
  intro j hj
  by_contra hc
  exact Nat.find_min hex hj ⟨by omega, not_lt.1 hc⟩

theorem inSlice_unique {ts : List (Slice K)} {i j : Nat} {a : K} (hi : InSlice ts i a)
    (hj : InSlice ts j a) : i = j := by
  rcases Nat.lt_trichotomy i j with h | h | h
  · exact absurd (lt_of_lt_of_le (hj.2 i h) hi.1) (lt_irrefl _)
  · exact h
  · exact absurd (lt_of_lt_of_le (hi.2 j h) hj.1) (lt_irrefl _)

/-- `DriftTables::at` on tables with at least one slice, `|z|` beyond the last bound. -/
theorem tablesAt_err_z {ts : List (Slice K)} (hn : 1 ≤ ts.length) {z : K} (t : K)
    (h : zMax ts < |z|) : tablesAt (fieldOps K) ts z t = .err .axialPositionOutOfRange := by
  unfold tablesAt
  rw [getElem?_sl (by omega : ts.length - 1 < ts.length)]
  simp only
  have : (fieldOps K).gt ((fieldOps K).abs z) (sl ts (ts.length - 1)).zUpper = true := by
    simpa [Ops.gt, fieldOps, zMax, zb] using h
  rw [if_pos this]

/-- `DriftTables::at` on tables with at least one slice, `|z|` in the region of slice `i`:
the lookup in that slice's table. -/
theorem tablesAt_inSlice {ts : List (Slice K)} {i : Nat} (hi : i < ts.length) {z : K} (t : K)
    (hz : InSlice ts i |z|) (hmax : |z| ≤ zMax ts) :
    tablesAt (fieldOps K) ts z t = tableAt (fieldOps K) (sl ts i).table t := by
  unfold tablesAt
  rw [getElem?_sl (by omega : ts.length - 1 < ts.length)]
  simp only
  have : ¬ ((fieldOps K).gt ((fieldOps K).abs z) (sl ts (ts.length - 1)).zUpper = true) := by
    simpa [Ops.gt, fieldOps, zMax, zb] using hmax
  rw [if_neg this]
  have hf : List.find? (fun s => (fieldOps K).ge s.zUpper ((fieldOps K).abs z)) ts = some (sl ts i) := by
    rw [List.find?_eq_some_iff_getElem]
    refine ⟨by simpa [Ops.ge, fieldOps, zb] using hz.1, i, hi, (sl_eq_getElem hi).symm, ?_⟩
    intro j hj
    have := hz.2 j hj
    rw [← sl_eq_getElem (by omega : j < ts.length)]
    simpa [Ops.ge, fieldOps, zb] using this
  rw [hf]

end AlphaG.Drift
