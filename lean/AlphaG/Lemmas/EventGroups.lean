import AlphaG.Lemmas.Event
import AlphaG.Lemmas.EventSpec
/-
The association list that models `pwb_chunks_map`: keys are distinct, the chunks of a key are
exactly the inserted chunks with that key, in insertion order; every chunk in it came out of
`Chunk::try_from`.
-/
namespace AlphaG.Event
open AlphaG AlphaG.Generated

/-- The chunks inserted under key `k`. -/
def chunksFor (k : Key) (kcs : List (Key × Pwb.ChunkV)) : List Pwb.ChunkV :=
  (kcs.filter (fun kc => decide (kc.1 = k))).map (·.2)

/-- `map.get(&k)` -/
def lookupKey (k : Key) : List Group → Option (List Pwb.ChunkV)
  | [] => none
  | g :: rest => if g.1 = k then some g.2 else lookupKey k rest

theorem chunksFor_snoc (k k' : Key) (c : Pwb.ChunkV) (kcs : List (Key × Pwb.ChunkV)) :
    chunksFor k' (kcs ++ [(k, c)]) = if k = k' then chunksFor k' kcs ++ [c] else chunksFor k' kcs := by
  unfold chunksFor
  rw [List.filter_append, List.map_append]
  by_cases h : k = k'
  · simp [h]
  · simp [h]

theorem chunksFor_eq_nil {k : Key} {kcs : List (Key × Pwb.ChunkV)} (h : k ∉ kcs.map (·.1)) :
    chunksFor k kcs = [] := by
  rw [chunksFor, List.map_eq_nil_iff, List.filter_eq_nil_iff]
  intro kc hkc e
  exact h (of_decide_eq_true e ▸ List.mem_map_of_mem hkc)

theorem pushChunk_keys (k : Key) (c : Pwb.ChunkV) (gs : List Group) :
    (pushChunk k c gs).map (·.1) = if k ∈ gs.map (·.1) then gs.map (·.1) else gs.map (·.1) ++ [k] := by
  induction gs with
  | nil => rfl
  | cons g rest ih =>
    rw [pushChunk]
    by_cases h : g.1 = k
    · simp [h]
    · simp only [h, if_false, List.map_cons, ih, List.mem_cons, Ne.symm h, false_or]
      split <;> rfl

theorem mem_pushChunk_keys {k k' : Key} {c : Pwb.ChunkV} {gs : List Group} :
    k' ∈ (pushChunk k c gs).map (·.1) ↔ k' ∈ gs.map (·.1) ∨ k' = k := by
  rw [pushChunk_keys]
  split
  · rename_i hm
    exact ⟨Or.inl, fun h => h.elim id fun e => e ▸ hm⟩
  · rw [List.mem_append, List.mem_singleton]

theorem pushChunk_lookup (k : Key) (c : Pwb.ChunkV) (k' : Key) (gs : List Group) :
    lookupKey k' (pushChunk k c gs)
      = if k' = k then some ((lookupKey k gs).getD [] ++ [c]) else lookupKey k' gs := by
  induction gs with
  | nil => simp [pushChunk, lookupKey, eq_comm]
  | cons g rest ih =>
    rw [pushChunk]
    by_cases hg : g.1 = k
    · subst hg; by_cases h : k' = g.1 <;> simp [lookupKey, h, eq_comm]
    · by_cases h : k' = k
      · subst h; simp [lookupKey, hg, ih]
      · by_cases hg' : g.1 = k' <;> simp [lookupKey, hg, hg', ih, h]

theorem lookupKey_none (k : Key) : ∀ gs : List Group, k ∉ gs.map (·.1) → lookupKey k gs = none
  | [], _ => rfl
  | g :: rest, h => by
    simp only [List.map_cons, List.mem_cons, not_or] at h
    have : ¬ g.1 = k := fun e => h.1 e.symm
    simp only [lookupKey, this, if_false]
    exact lookupKey_none k rest h.2

theorem lookupKey_mem (g : Group) : ∀ gs : List Group, (gs.map (·.1)).Nodup → g ∈ gs →
    lookupKey g.1 gs = some g.2
  | [], _, h => by cases h
  | g0 :: rest, hn, h => by
    simp only [List.map_cons, List.nodup_cons] at hn
    rcases List.mem_cons.1 h with e | hr
    · subst e; simp [lookupKey]
    · have : ¬ g0.1 = g.1 := by
        intro e
        exact hn.1 (e ▸ List.mem_map.2 ⟨g, hr, rfl⟩)
      simp only [lookupKey, this, if_false]
      exact lookupKey_mem g rest hn.2 hr

theorem lookupKey_some {k : Key} {cs : List Pwb.ChunkV} : ∀ gs : List Group,
    lookupKey k gs = some cs → (k, cs) ∈ gs
  | [], h => by cases h
  | g :: rest, h => by
    unfold lookupKey at h
    split at h
    · rename_i e
      cases h
      exact List.mem_cons.2 (Or.inl (by rw [← e]))
    · exact List.mem_cons_of_mem _ (lookupKey_some rest h)

/-- What the fold of `pushChunk` over the (key, chunk) pairs `kcs` guarantees. -/
structure GroupsOk (gs : List Group) (kcs : List (Key × Pwb.ChunkV)) : Prop where
  nodup : (gs.map (·.1)).Nodup
  keys : ∀ k, k ∈ gs.map (·.1) ↔ k ∈ kcs.map (·.1)
  lookup : ∀ k, k ∈ gs.map (·.1) → lookupKey k gs = some (chunksFor k kcs)

theorem groupsOk_nil : GroupsOk [] [] :=
  ⟨List.nodup_nil, fun _ => Iff.rfl, fun _ h => by cases h⟩

theorem groupsOk_push {gs : List Group} {kcs : List (Key × Pwb.ChunkV)} (h : GroupsOk gs kcs)
    (k : Key) (c : Pwb.ChunkV) : GroupsOk (pushChunk k c gs) (kcs ++ [(k, c)]) := by
  refine ⟨?_, fun k' => ?_, fun k' hk' => ?_⟩
  · rw [pushChunk_keys]
    split
    · exact h.nodup
    · rename_i hm
      refine List.nodup_append.2 ⟨h.nodup, List.pairwise_singleton _ k, fun a ha b hb e => hm ?_⟩
      rwa [← List.mem_singleton.1 hb, ← e]
  · rw [mem_pushChunk_keys, h.keys, List.map_append, List.mem_append, List.map_singleton,
      List.mem_singleton]
  · rw [pushChunk_lookup, chunksFor_snoc]
    by_cases e : k' = k
    · subst e
      rw [if_pos rfl, if_pos rfl]
      by_cases hm : k' ∈ gs.map (·.1)
      · rw [h.lookup k' hm]; rfl
      · rw [lookupKey_none k' gs hm, chunksFor_eq_nil (mt (h.keys k').2 hm)]; rfl
    · rw [if_neg e, if_neg (Ne.symm e)]
      exact h.lookup k' ((mem_pushChunk_keys.1 hk').resolve_right e)

theorem groupsOk_fold : ∀ (kcs : List (Key × Pwb.ChunkV)) (gs : List Group)
    (done : List (Key × Pwb.ChunkV)), GroupsOk gs done →
    GroupsOk (kcs.foldl (fun gs kc => pushChunk kc.1 kc.2 gs) gs) (done ++ kcs)
  | [], gs, done, h => by simpa using h
  | kc :: rest, gs, done, h => by
    have := groupsOk_fold rest (pushChunk kc.1 kc.2 gs) (done ++ [kc]) (groupsOk_push h kc.1 kc.2)
    simpa using this

theorem groupsOf_ok (banks : List Bank) : GroupsOk (groupsOf banks) (banks.filterMap chunkOf) := by
  have := groupsOk_fold (banks.filterMap chunkOf) [] [] groupsOk_nil
  simpa [groupsOf] using this

theorem GroupsOk.chunks_eq {gs : List Group} {kcs : List (Key × Pwb.ChunkV)} (h : GroupsOk gs kcs)
    {g : Group} (hg : g ∈ gs) : g.2 = chunksFor g.1 kcs := by
  have h1 := lookupKey_mem g gs h.nodup hg
  rw [h.lookup g.1 (List.mem_map.2 ⟨g, hg, rfl⟩)] at h1
  exact (Option.some.inj h1).symm

theorem GroupsOk.mem_of_key {gs : List Group} {kcs : List (Key × Pwb.ChunkV)} (h : GroupsOk gs kcs)
    {k : Key} (hk : k ∈ kcs.map (·.1)) : (k, chunksFor k kcs) ∈ gs :=
  lookupKey_some gs (h.lookup k ((h.keys k).2 hk))

theorem chunkOf_valid {b : Bank} {k : Key} {c : Pwb.ChunkV} (h : chunkOf b = some (k, c)) :
    c.Valid := by
  unfold chunkOf at h
  split at h
  · rename_i nm _
    split at h
    · split at h
      · rename_i c0 hc0
        cases h
        exact C01.decoded_chunk_valid b.2 c0 hc0
      · cases h
    · cases h
  · cases h

theorem chunksFor_valid (banks : List Bank) (k : Key) :
    ∀ c ∈ chunksFor k (banks.filterMap chunkOf), c.Valid := by
  intro c hc
  unfold chunksFor at hc
  obtain ⟨kc, hkc, rfl⟩ := List.mem_map.1 hc
  obtain ⟨b, _, hb⟩ := List.mem_filterMap.1 (List.mem_filter.1 hkc).1
  exact chunkOf_valid (k := kc.1) (c := kc.2) hb

theorem groupsOf_valid (banks : List Bank) : ∀ g ∈ groupsOf banks, ∀ c ∈ g.2, c.Valid := fun g hg => by
  rw [(groupsOf_ok banks).chunks_eq hg]; exact chunksFor_valid banks g.1

theorem chunksFor_perm (k : Key) {l₁ l₂ : List (Key × Pwb.ChunkV)} (h : l₁.Perm l₂) :
    (chunksFor k l₁).Perm (chunksFor k l₂) := (h.filter _).map _

/-- What the second loop uses of a group: its key and the outcome of reassembling its chunks. -/
def view (g : Group) : Key × Outcome Pwb.CErr Pwb.PwbPacket := (g.1, Pwb.reassemble g.2)

/-- Permuted bank lists give the same groups as the second loop sees them, up to order: same
keys, and reassembly does not depend on the order of the chunks (C04 `reassemble_perm_eq`). -/
theorem groupViews_perm {banks₁ banks₂ : List Bank} (h : banks₁.Perm banks₂) :
    ((groupsOf banks₁).map view).Perm ((groupsOf banks₂).map view) := by
  have byKeys : ∀ banks, (groupsOf banks).map view = ((groupsOf banks).map (·.1)).map
      fun k => (k, Pwb.reassemble (chunksFor k (banks.filterMap chunkOf))) := fun banks => by
    rw [List.map_map]
    exact List.map_congr_left fun g hg => by rw [view, (groupsOf_ok banks).chunks_eq hg]; rfl
  have ok1 := groupsOf_ok banks₁
  have ok2 := groupsOf_ok banks₂
  have hk := h.filterMap chunkOf
  have hfun : (fun k => (k, Pwb.reassemble (chunksFor k (banks₁.filterMap chunkOf))))
      = fun k => (k, Pwb.reassemble (chunksFor k (banks₂.filterMap chunkOf))) := funext fun k => by
    rw [Pwb.reassemble_perm_eq _ _ (chunksFor_valid banks₁ k) (chunksFor_perm k hk)]
  rw [byKeys, byKeys, hfun]
  refine List.Perm.map _ ((List.perm_ext_iff_of_nodup ok1.nodup ok2.nodup).2 fun k => ?_)
  rw [ok1.keys k, ok2.keys k]
  exact (hk.map _).mem_iff

theorem padHits_perm (run c r : Nat) {banks₁ banks₂ : List Bank} (h : banks₁.Perm banks₂) :
    (padHits run c r (groupsOf banks₁)).Perm (padHits run c r (groupsOf banks₂)) := by
  have e : ∀ gs, padHits run c r gs = (gs.map view).flatMap fun v =>
      match v.2 with
      | .ok p => packetHits run c r p p.channelsSent
      | _ => [] := fun gs => by rw [List.flatMap_map]; rfl
  rw [e, e]
  exact List.Perm.flatMap_right _ (groupViews_perm h)

end AlphaG.Event
