import AlphaG.Lemmas.DeconvField
import AlphaG.Lemmas.Bytes
/-
Facts about the deconvolution model (`Model/Deconv.lean`). No law of the carrier is needed for:
the production loop `fast` is the plain loop `naive` (`fast_eq_naive_loop`; from there on every fact
about the loops is proved for `naive` and carried over by `loopResult_eq_naive`), the shapes of all
results, and the sweep of `ls_deconvolution` over ok runs being the pure `argminLoop`. The order
facts (`ls_first_strict_min`, `deconv_nonneg*`) are over `fieldOps top`, a linearly ordered field.
-/
namespace AlphaG.Deconv

variable {α : Type} (o : Ops α)

theorem window_length {res : List α} {i off la : Nat} (h : i + off + la ≤ res.length) :
    (window res i off la).length = la := by
  simp only [window, List.length_take, List.length_drop]; omega

theorem window_getElem {res : List α} {i off la j : Nat} (h : i + off + la ≤ res.length)
    (hj : j < la) :
    (window res i off la)[j]'(by rw [window_length h]; exact hj)
      = res[i + off + j]'(by omega) := by
  simp only [window, List.getElem_take, List.getElem_drop]

theorem any_window_of_nonneg (res : List α) (i off la p : Nat) (hp : p < res.length)
    (hn : o.nonneg res[p] = true) (h1 : i + off ≤ p) (h2 : p < i + off + la) :
    (window res i off la).any o.nonneg = true := by
  refine List.any_eq_true.mpr ⟨_, List.mem_take_iff_getElem.mpr
    ⟨p - (i + off), by rw [List.length_drop]; omega, ?_⟩, hn⟩
  rw [List.getElem_drop]; congr 1; omega

theorem lastNonneg_none_iff (w : List α) : lastNonneg o w = none ↔ w.any o.nonneg = false := by
  rw [← List.any_reverse, ← List.findIdx?_isSome, lastNonneg]
  cases w.reverse.findIdx? o.nonneg <;> simp

theorem lastNonneg_some (w : List α) (k : Nat) (h : lastNonneg o w = some k) :
    ∃ hk : k < w.length, o.nonneg w[k] = true := by
  unfold lastNonneg at h
  split at h
  · rename_i j hj
    obtain ⟨hj, hp, _⟩ := List.findIdx?_eq_some_iff_getElem.mp hj
    rw [List.length_reverse] at hj
    rw [List.getElem_reverse] at hp
    cases h
    exact ⟨by omega, hp⟩
  · cases h

theorem naive_oob {resp : List α} {off la i : Nat} {res inp : List α}
    (hb : ¬ i + off + la ≤ res.length) : naive o resp off la i res inp = (res, inp) := by
  rw [naive, dif_neg hb]

theorem naive_of_any {resp : List α} {off la i : Nat} {res inp : List α}
    (hb : i + off + la ≤ res.length) (h : (window res i off la).any o.nonneg = true) :
    naive o resp off la i res inp = naive o resp off la (i + 1) res inp := by
  rw [naive, dif_pos hb, if_pos h]

theorem naive_of_not_any {resp : List α} {off la i : Nat} {res inp : List α}
    (hb : i + off + la ≤ res.length) (h : (window res i off la).any o.nonneg = false) :
    naive o resp off la i res inp = naive o resp off la (i + 1)
      (applyAt o res resp i (stepVal o (window res i off la) (respWindow resp off la)))
      (inp.set i (stepVal o (window res i off la) (respWindow resp off la))) := by
  rw [naive, dif_pos hb, if_neg (by simp [h])]

/-- `naive` steps over `d` indices whose windows each hold a non-negative sample, leaving `res` and
`inp` as they are. (The stretch may run past the end: there the loop has stopped.) -/
theorem naive_skip_to (resp : List α) (off la : Nat) (res inp : List α) :
    ∀ d i, (∀ j, i ≤ j → j < i + d → j + off + la ≤ res.length →
        (window res j off la).any o.nonneg = true) →
      naive o resp off la i res inp = naive o resp off la (i + d) res inp
  | 0, _, _ => rfl
  | d + 1, i, h => by
    by_cases hb : i + off + la ≤ res.length
    · rw [naive_of_any o hb (h i (Nat.le_refl i) (by omega) hb),
        naive_skip_to resp off la res inp d (i + 1) fun j h1 h2 => h j (by omega) (by omega),
        Nat.add_right_comm, Nat.add_assoc]
    · rw [naive_oob o hb, naive_oob o (by omega)]

/-- While a non-negative sample sits at absolute position `p` inside the window, `naive` only
advances. -/
theorem naive_skip (resp : List α) (off la : Nat) (res inp : List α) (p : Nat)
    (hp : p < res.length) (hn : o.nonneg res[p] = true) :
    ∀ d i, i + off ≤ p → p < i + off + la → p + 1 = i + off + d →
      naive o resp off la i res inp = naive o resp off la (i + d) res inp :=
  fun d i _ h2 h3 => naive_skip_to o resp off la res inp d i fun j _ _ _ =>
    any_window_of_nonneg o res j off la p hp hn (by omega) (by omega)

/-- The production loop computes what the plain loop does. Where `fast` jumps from `i` past the last
non-negative sample of the window, at offset `k`, to `i + k + 1`, `naive` gets there one index at a
time, since that sample lies in every window in between (`naive_skip`). That it is the *last* such
sample is not used (`lastNonneg_some` does not even say so): a jump past any non-negative sample of
the window would be as correct. -/
theorem fast_eq_naive_loop (o : Ops α) (resp : List α) (off la i : Nat) (res inp : List α) :
    fast o resp off la i res inp = naive o resp off la i res inp := by
  fun_induction fast o resp off la i res inp with
  | case1 i res inp hb k hk ih =>
    obtain ⟨hkl, hnn⟩ := lastNonneg_some o _ k hk
    rw [window_length hb] at hkl
    rw [window_getElem hb hkl] at hnn
    rw [ih, Nat.add_assoc, naive_skip o resp off la res inp (i + off + k) (by omega) hnn (k + 1) i
      (by omega) (by omega) (by omega)]
  | case2 i res inp hb hnone ih =>
    rw [ih, naive_of_not_any o hb ((lastNonneg_none_iff o _).mp hnone)]
  | case3 i res inp hb => rw [naive_oob o hb]

theorem loopResult_eq_naive (b : Bool) (signal resp : List α) (off la : Nat) :
    loopResult o b signal resp off la
      = naive o resp off la 0 signal (List.replicate signal.length o.zero) := by
  cases b
  · rfl
  · exact fast_eq_naive_loop ..

theorem nnGreedy_bool (b : Bool) (signal resp : List α) (off la : Nat) :
    nnGreedy o b signal resp off la = nnGreedy o false signal resp off la := by
  simp only [nnGreedy, loopResult_eq_naive]

/-- Residual vector, residual sum, reconstructed input and every panic are the same. -/
theorem fast_eq_naive (o : Ops α) (signal resp : List α) (off la : Nat) :
    nnGreedyFast o signal resp off la = nnGreedyNaive o signal resp off la :=
  nnGreedy_bool o true signal resp off la

theorem lsDeconvWith_bool (b : Bool) (signal resp : List α) (offLo offHi laLo laHi : Nat) :
    lsDeconvWith o b signal resp offLo offHi laLo laHi
      = lsDeconvWith o false signal resp offLo offHi laLo laHi := by
  unfold lsDeconvWith
  generalize grid offLo offHi laLo laHi = g, o.inf = r, ([] : List α) = best
  induction g generalizing r best with
  | nil => rfl
  | cons p rest ih => simp only [lsLoop, nnGreedy_bool o b, ih]

theorem naive_length (resp : List α) (off la i : Nat) (res inp : List α) :
    (naive o resp off la i res inp).1.length = res.length
      ∧ (naive o resp off la i res inp).2.length = inp.length := by
  fun_induction naive o resp off la i res inp with
  | case1 i res inp hb hany ih => exact ih
  | case2 i res inp hb hany ih =>
    simpa only [applyAt_length, List.length_set] using ih
  | case3 i res inp hb => exact ⟨rfl, rfl⟩

theorem loopResult_length (b : Bool) (signal resp : List α) (off la : Nat) :
    (loopResult o b signal resp off la).1.length = signal.length
      ∧ (loopResult o b signal resp off la).2.length = signal.length := by
  simpa only [loopResult_eq_naive, List.length_replicate] using
    naive_length o resp off la 0 signal (List.replicate signal.length o.zero)

theorem responseNeg_of_take (resp : List α) (m : Nat) (hm : m ≤ resp.length)
    (hneg : ∀ r ∈ resp.take m, o.isNeg r = true) (off la : Nat) (h : off + la ≤ m) :
    ResponseNeg o resp off la := by
  refine ⟨by omega, fun r hr => hneg r ?_⟩
  rw [respWindow, List.take_drop] at hr
  exact List.take_subset_take_left _ h (List.mem_of_mem_drop hr)

/-- The four guards of `nnGreedy` amount to `ResponseNeg` and "the loop body is never entered with
an empty window" (`0 < la`, or the loop condition fails at `i = 0`). -/
theorem nnGreedy_eq_ok_iff (b : Bool) (signal resp : List α) (off la : Nat)
    {t : List α × α × List α} :
    nnGreedy o b signal resp off la = .ok t ↔
      (ResponseNeg o resp off la ∧ (0 < la ∨ signal.length < off))
      ∧ t = ((loopResult o b signal resp off la).1,
             sumSq o (loopResult o b signal resp off la).1,
             (loopResult o b signal resp off la).2) := by
  simp only [nnGreedy, panic_ite_eq_ok, Outcome.ok.injEq, ResponseNeg, List.all_eq_true,
    Decidable.not_not, eq_comm (b := t)]
  constructor
  · rintro ⟨h1, h2, h3, h4, ht⟩; exact ⟨⟨⟨by omega, h3⟩, by omega⟩, ht⟩
  · rintro ⟨⟨⟨h1, h3⟩, h4⟩, ht⟩; exact ⟨by omega, by omega, h3, by omega, ht⟩

theorem nnGreedy_eq_ok (b : Bool) (signal resp : List α) (off la : Nat) (hla : 0 < la)
    (hresp : ResponseNeg o resp off la) :
    nnGreedy o b signal resp off la
      = .ok ((loopResult o b signal resp off la).1, sumSq o (loopResult o b signal resp off la).1,
             (loopResult o b signal resp off la).2) :=
  (nnGreedy_eq_ok_iff o b signal resp off la).mpr ⟨⟨hresp, .inl hla⟩, rfl⟩

theorem deconv_shape_nn (o : Ops α) {b : Bool} {signal resp : List α} {off la : Nat}
    {res : List α} {sum : α} {inp : List α}
    (h : nnGreedy o b signal resp off la = .ok (res, sum, inp)) :
    res.length = signal.length ∧ inp.length = signal.length := by
  cases ((nnGreedy_eq_ok_iff o b signal resp off la).mp h).2
  exact loopResult_length o b signal resp off la

theorem lsLoop_invariant (P : List α → Prop) {b : Bool} {signal resp : List α}
    {g : List (Nat × Nat)}
    (hP : ∀ p ∈ g, ∀ res r inp, nnGreedy o b signal resp p.1 p.2 = .ok (res, r, inp) → P inp)
    {bestR : α} {best out : List α} (hbest : P best)
    (h : lsLoop o b signal resp g bestR best = .ok out) : P out := by
  induction g generalizing bestR best with
  | nil => cases h; exact hbest
  | cons p rest ih =>
    obtain ⟨hp, hrest⟩ := List.forall_mem_cons.mp hP
    unfold lsLoop at h
    split at h
    · rename_i res r inp hrun
      split at h
      · exact ih hrest (hp res r inp hrun) h
      · exact ih hrest hbest h
    · cases h
    · cases h

theorem deconv_shape_ls (o : Ops α) {b : Bool} {signal resp : List α}
    {offLo offHi laLo laHi : Nat} {inp : List α}
    (h : lsDeconvWith o b signal resp offLo offHi laLo laHi = .ok inp) :
    inp = [] ∨ inp.length = signal.length :=
  lsLoop_invariant o (fun l => l = [] ∨ l.length = signal.length)
    (fun _ _ _ _ _ hrun => .inr (deconv_shape_nn o hrun).2) (.inl rfl) h

theorem grid_cons (offLo offHi laLo laHi : Nat) (hoff : offLo ≤ offHi) (hla : laLo ≤ laHi) :
    ∃ rest, grid offLo offHi laLo laHi = (offLo, laLo) :: rest := by
  unfold grid
  have e1 : offHi + 1 - offLo = (offHi - offLo) + 1 := by omega
  have e2 : laHi + 1 - laLo = (laHi - laLo) + 1 := by omega
  rw [e1, e2, List.range'_succ (s := offLo), List.flatMap_cons, List.range'_succ (s := laLo),
    List.map_cons, List.cons_append]
  exact ⟨_, rfl⟩

theorem mem_grid (offLo offHi laLo laHi off la : Nat) :
    (off, la) ∈ grid offLo offHi laLo laHi
      ↔ (offLo ≤ off ∧ off ≤ offHi) ∧ (laLo ≤ la ∧ la ≤ laHi) := by
  simp only [grid, List.mem_flatMap, List.mem_map, List.mem_range'_1, Prod.mk.injEq]
  constructor
  · rintro ⟨a, ha, b, hb, rfl, rfl⟩; omega
  · intro h; exact ⟨off, by omega, la, by omega, rfl, rfl⟩

/-- When the first grid point is accepted (its residual sum is `< +∞`) the sweep returns a
vector of the signal's length. In `f64` a NaN residual sum is never `<` anything, so a sweep whose
runs all give NaN (or `+∞`) returns the initial empty vector; such signals are outside the
quantifier of the property, which is why the hypothesis `o.lt r o.inf = true` is needed. -/
theorem ls_nonempty (o : Ops α) (b : Bool) (signal resp : List α)
    (offLo offHi laLo laHi : Nat) (res : List α) (r : α) (i0 inp : List α)
    (hoff : offLo ≤ offHi) (hla : laLo ≤ laHi)
    (h0 : nnGreedy o b signal resp offLo laLo = .ok (res, r, i0))
    (hr : o.lt r o.inf = true)
    (h : lsDeconvWith o b signal resp offLo offHi laLo laHi = .ok inp) :
    inp.length = signal.length := by
  obtain ⟨rest, hg⟩ := grid_cons offLo offHi laLo laHi hoff hla
  simp only [lsDeconvWith, hg, lsLoop, h0, hr, if_true] at h
  exact lsLoop_invariant o (fun l => l.length = signal.length)
    (fun _ _ _ _ _ hrun => (deconv_shape_nn o hrun).2) (deconv_shape_nn o h0).2 h

theorem sequence_eq_ok {ε β : Type} (l : List (Outcome ε β)) (out : List β)
    (h : sequence l = .ok out) : l = out.map .ok := by
  induction l generalizing out with
  | nil => cases h; rfl
  | cons x xs ih =>
    cases x with
    | ok a =>
      simp only [sequence] at h
      split at h
      · rename_i as has
        cases h
        rw [ih as has]; rfl
      · cases h
      · cases h
    | err e => cases h
    | panic s => cases h

theorem sequence_total {ε β : Type} (l : List (Outcome ε β)) (h : ∀ x ∈ l, ∃ a, x = .ok a) :
    ∃ out, sequence l = .ok out := by
  induction l with
  | nil => exact ⟨[], rfl⟩
  | cons x xs ih =>
    obtain ⟨a, rfl⟩ := h x (by simp)
    obtain ⟨out, hout⟩ := ih (fun y hy => h y (by simp [hy]))
    exact ⟨a :: out, by simp [sequence, hout]⟩

theorem wireRangeDeconv_ok
    {cholSolve : Nat → Nat → (Nat → Nat → α) → (Nat → Nat → α)}
    {wireResp : List α} {block out : List (Nat × List α)}
    (h : wireRangeDeconv o cholSolve wireResp block = .ok out) :
    out.length = block.length ∧ out.map Prod.fst = block.map Prod.fst
      ∧ ∀ p ∈ out, ∃ signal : List α, signal.length = maxLen (block.map Prod.snd)
          ∧ wireDeconv o wireResp signal = .ok p.2 := by
  unfold wireRangeDeconv at h
  split at h
  · rename_i sol hsol
    cases h
    unfold wireSignalsDeconv at hsol
    split at hsol
    · cases hsol
    · have hs := sequence_eq_ok _ _ hsol
      have hlen : (block.map Prod.fst).length = sol.length := by
        simpa using congrArg List.length hs
      refine ⟨by simp [← hlen], List.map_fst_zip (Nat.le_of_eq hlen), fun p hp => ?_⟩
      have : Outcome.ok p.2 ∈ sol.map (Outcome.ok (ε := Unit)) :=
        List.mem_map_of_mem (List.of_mem_zip hp).2
      rw [← hs] at this
      obtain ⟨column, _, hc⟩ := List.mem_map.mp this
      exact ⟨_, by simp, hc⟩
  · cases h
  · cases h

/-- `hc`: for a block of one wire `a_matrix` is `[1]`, so the solve is the identity. -/
theorem wireRangeDeconv_single
    (cholSolve : Nat → Nat → (Nat → Nat → α) → (Nat → Nat → α))
    (hc : ∀ i y r c, cholSolve i 1 y r c = y r c) (wireResp : List α) (w : Nat) (signal : List α) :
    wireRangeDeconv o cholSolve wireResp [(w, signal)]
      = (wireDeconv o wireResp signal).bind fun out => .ok [(w, out)] := by
  have hsig : ((List.range (maxLen [signal])).map fun row =>
      cholSolve (maxLen [signal]) (0 + 1) (yMatrix o [signal]) row 0) = signal := by
    apply List.ext_getElem
    · simp [maxLen]
    · intro j h1 h2
      simp [hc, yMatrix, List.getD_eq_getElem?_getD, h2]
  simp only [wireRangeDeconv, wireSignalsDeconv, List.map_cons, List.map_nil, List.isEmpty_cons,
    Bool.false_eq_true, if_false, List.length_cons, List.length_nil,
    show List.range (0 + 1) = [0] from rfl, hsig]
  cases wireDeconv o wireResp signal <;> rfl

/-- `Y` is zero beyond the end of a short channel … -/
theorem yMatrix_padding (o : Ops α) (signals : List (List α)) (row column : Nat)
    (h : (signals.getD column []).length ≤ row) :
    yMatrix o signals row column = o.zero := by
  unfold yMatrix
  rw [List.getD_eq_getElem?_getD (l := signals.getD column []), List.getElem?_eq_none h]
  rfl

/-- … and sample `row` of channel `column` otherwise. -/
theorem yMatrix_inrange (o : Ops α) (signals : List (List α)) (row column : Nat)
    (h : row < (signals.getD column []).length) :
    yMatrix o signals row column = (signals.getD column [])[row] := by
  unfold yMatrix
  rw [List.getD_eq_getElem?_getD (l := signals.getD column []), List.getElem?_eq_getElem h]
  rfl

/-- A column outside the block is all zero as well (never used by `wireSignalsDeconv`). -/
theorem yMatrix_column_out (o : Ops α) (signals : List (List α)) (row column : Nat)
    (h : signals.length ≤ column) : yMatrix o signals row column = o.zero :=
  yMatrix_padding o signals row column
    (by simp [List.getD_eq_getElem?_getD, List.getElem?_eq_none h])

/-- The sweep of `ls_deconvolution` on the results of the runs. -/
def argminLoop : List (List α × α × List α) → α → List α → List α
  | [], _, best => best
  | (_, r, inp) :: rest, bestR, best =>
    if o.lt r bestR then argminLoop rest r inp else argminLoop rest bestR best

theorem runs_exist {β γ : Type} (f : β → Outcome Unit γ) (g : List β)
    (h : ∀ p ∈ g, ∃ t, f p = .ok t) : ∃ runs : List γ, g.map f = runs.map .ok :=
  have ⟨runs, hr⟩ := sequence_total (g.map f) (List.forall_mem_map.mpr h)
  ⟨runs, sequence_eq_ok _ _ hr⟩

theorem lsLoop_eq_argminLoop (b : Bool) (signal resp : List α) (g : List (Nat × Nat))
    (runs : List (List α × α × List α))
    (hruns : g.map (fun p => nnGreedy o b signal resp p.1 p.2) = runs.map .ok)
    (bestR : α) (best : List α) :
    lsLoop o b signal resp g bestR best = .ok (argminLoop o runs bestR best) := by
  induction g generalizing runs bestR best with
  | nil => cases runs with
    | nil => rfl
    | cons t ts => cases hruns
  | cons p rest ih => cases runs with
    | nil => cases hruns
    | cons t ts =>
      obtain ⟨h1, h2⟩ := List.cons.inj hruns
      simp only [lsLoop, h1, argminLoop]
      split
      · exact ih ts h2 _ _
      · exact ih ts h2 _ _

theorem lsDeconvWith_total (b : Bool) (signal resp : List α) (offLo offHi laLo laHi : Nat)
    (hla : 0 < laLo)
    (hresp : ∀ off la, offLo ≤ off → off ≤ offHi → laLo ≤ la → la ≤ laHi →
      ResponseNeg o resp off la) :
    ∃ out, lsDeconvWith o b signal resp offLo offHi laLo laHi = .ok out :=
  have ⟨runs, hruns⟩ := runs_exist (fun p => nnGreedy o b signal resp p.1 p.2)
    (grid offLo offHi laLo laHi) fun ⟨off, la⟩ hp =>
      have ⟨⟨h1, h2⟩, h3, h4⟩ := (mem_grid ..).mp hp
      ⟨_, nnGreedy_eq_ok o b signal resp off la (by omega) (hresp off la h1 h2 h3 h4)⟩
  ⟨_, lsLoop_eq_argminLoop o b signal resp _ runs hruns _ _⟩

section OrderedField
open Lean Grind Std
variable {F : Type} [Field F] [LE F] [LT F] [LawfulOrderLT F] [IsLinearOrder F] [OrderedRing F]
  [DecidableLT F] [DecidableLE F]

omit [OrderedRing F] in
theorem argminLoop_spec (top : F) (l : List (List F × F × List F)) (bestR : F) (best : List F) :
    ((∀ t ∈ l, ¬ t.2.1 < bestR) ∧ argminLoop (fieldOps top) l bestR best = best)
    ∨ ∃ j, ∃ hj : j < l.length, l[j].2.1 < bestR ∧ (∀ t ∈ l, l[j].2.1 ≤ t.2.1)
        ∧ (∀ t ∈ l.take j, l[j].2.1 < t.2.1)
        ∧ argminLoop (fieldOps top) l bestR best = l[j].2.2 := by
  induction l generalizing bestR best with
  | nil => exact .inl ⟨nofun, rfl⟩
  | cons x rest ih =>
    simp only [argminLoop, fieldOps_lt, decide_eq_true_eq]
    split
    · rename_i hr
      refine .inr ?_
      rcases ih x.2.1 x.2.2 with ⟨hall, hres⟩ | ⟨j, hj, hlt, hmin, hfirst, hres⟩
      · exact ⟨0, Nat.zero_lt_succ _, hr,
          List.forall_mem_cons.mpr ⟨le_refl _, fun t ht => not_lt.mp (hall t ht)⟩, nofun, hres⟩
      · exact ⟨j + 1, Nat.succ_lt_succ hj, lt_trans hlt hr,
          List.forall_mem_cons.mpr ⟨le_of_lt hlt, hmin⟩,
          List.forall_mem_cons.mpr ⟨hlt, hfirst⟩, hres⟩
    · rename_i hr
      rcases ih bestR best with ⟨hall, hres⟩ | ⟨j, hj, hlt, hmin, hfirst, hres⟩
      · exact .inl ⟨List.forall_mem_cons.mpr ⟨hr, hall⟩, hres⟩
      · have hx := lt_of_lt_of_le hlt (not_lt.mp hr)
        exact .inr ⟨j + 1, Nat.succ_lt_succ hj, hlt, List.forall_mem_cons.mpr ⟨le_of_lt hx, hmin⟩,
          List.forall_mem_cons.mpr ⟨hx, hfirst⟩, hres⟩

/-- **The first strict minimum wins.** Suppose every grid point's run is ok (`hruns`, see
`runs_exist`), `runs` being the results `(residual vector, residual sum, input)` in grid order.
Then the sweep returns `.ok best`, where either no residual sum is `< top` (`top` stands for
`+∞`) and `best` is the initial empty vector, or `best` is the input of the run `j` whose
residual sum is `< top`, minimal, and strictly smaller than that of every earlier run. -/
theorem ls_first_strict_min (top : F) (b : Bool) (signal resp : List F)
    (offLo offHi laLo laHi : Nat) (runs : List (List F × F × List F))
    (hruns : (grid offLo offHi laLo laHi).map
        (fun p => nnGreedy (fieldOps top) b signal resp p.1 p.2) = runs.map .ok) :
    ∃ best, lsDeconvWith (fieldOps top) b signal resp offLo offHi laLo laHi = .ok best ∧
      (((∀ t ∈ runs, ¬ t.2.1 < top) ∧ best = [])
       ∨ ∃ j, ∃ hj : j < runs.length, runs[j].2.1 < top
          ∧ (∀ i, ∀ hi : i < runs.length, runs[j].2.1 ≤ runs[i].2.1)
          ∧ (∀ i, ∀ hi : i < j, runs[j].2.1 < runs[i].2.1)
          ∧ best = runs[j].2.2) := by
  refine ⟨_, lsLoop_eq_argminLoop (fieldOps top) b signal resp _ runs hruns _ _, ?_⟩
  refine (argminLoop_spec top runs top []).imp id fun ⟨j, hj, hlt, hmin, hfirst, hres⟩ =>
    ⟨j, hj, hlt, fun i hi => hmin _ (List.getElem_mem hi), fun i hi => hfirst _ ?_, hres⟩
  exact List.mem_take_iff_getElem.mpr ⟨i, by omega, rfl⟩

omit [DecidableLT F] [DecidableLE F] in
theorem div_pos_of_neg_of_neg {s r : F} (hs : s < 0) (hr : r < 0) : 0 < s / r := by
  rw [Field.div_eq_mul_inv]
  exact OrderedRing.mul_pos_of_neg_of_neg hs ((Field.IsOrdered.inv_neg_iff).mpr hr)

/-- The value put into `input[i]`, a minimum of quotients of negatives, is strictly positive when
the two windows are non-empty … -/
theorem stepVal_pos (top : F) (w rw : List F) (hw : ∀ s ∈ w, s < 0) (hrw : ∀ r ∈ rw, r < 0)
    (hwne : w ≠ []) (hrwne : rw ≠ []) : 0 < stepVal (fieldOps top) w rw := by
  unfold stepVal
  have hall : ∀ x ∈ List.zipWith (fieldOps top).div w rw, 0 < x := by
    intro x hx
    rw [← List.map_uncurry_zip_eq_zipWith, List.mem_map] at hx
    obtain ⟨⟨s, r⟩, hsr, rfl⟩ := hx
    exact div_pos_of_neg_of_neg (hw s (List.of_mem_zip hsr).1) (hrw r (List.of_mem_zip hsr).2)
  split
  · rename_i hz
    exact (List.zipWith_eq_nil_iff.mp hz).elim (absurd · hwne) (absurd · hrwne)
  · rename_i x xs hz
    obtain ⟨hx, hxs⟩ := List.forall_mem_cons.mp (hz ▸ hall)
    exact List.foldlRecOn (motive := fun a : F => 0 < a) xs _ hx fun a ha y hy => by
      rw [fieldOps_min]
      split
      · exact hxs y hy
      · exact ha

/-- … and `0` for an empty window (which `nnGreedy` excludes). -/
theorem stepVal_nonneg (top : F) (w rw : List F) (hw : ∀ s ∈ w, s < 0) (hrw : ∀ r ∈ rw, r < 0) :
    0 ≤ stepVal (fieldOps top) w rw := by
  by_cases h : w = [] ∨ rw = []
  · rw [stepVal, List.zipWith_eq_nil_iff.mpr h]; exact le_refl (0 : F)
  · exact le_of_lt (stepVal_pos top w rw hw hrw (fun e => h (.inl e)) (fun e => h (.inr e)))

theorem naive_nonneg (top : F) (resp : List F) (off la : Nat)
    (hresp : ∀ r ∈ respWindow resp off la, r < 0) (i : Nat) (res inp : List F)
    (hinp : ∀ x ∈ inp, 0 ≤ x) :
    ∀ x ∈ (naive (fieldOps top) resp off la i res inp).2, 0 ≤ x := by
  fun_induction naive (fieldOps top) resp off la i res inp with
  | case1 i res inp hb hany ih => exact ih hinp
  | case2 i res inp hb hany ih =>
    refine ih fun x hx => (List.mem_or_eq_of_mem_set hx).elim (hinp x) fun e => e ▸ ?_
    refine stepVal_nonneg top _ _ (fun s hs => ?_) hresp
    exact not_le.mp ((by simpa using hany : ∀ x ∈ window res i off la, ¬ 0 ≤ x) s hs)
  | case3 i res inp hb => exact hinp

/-- `deconv_nonneg` from the run alone: `nnGreedy … = .ok _` already contains the `assert!` on the
response window. -/
theorem deconv_nonneg_of_ok (top : F) {b : Bool} {signal resp : List F} {off la : Nat}
    {res : List F} {sum : F} {inp : List F}
    (h : nnGreedy (fieldOps top) b signal resp off la = .ok (res, sum, inp)) :
    ∀ x ∈ inp, 0 ≤ x := by
  obtain ⟨⟨hresp, _⟩, ht⟩ := (nnGreedy_eq_ok_iff (fieldOps top) b signal resp off la).mp h
  cases ht
  rw [loopResult_eq_naive]
  refine naive_nonneg top resp off la (fun r hr => by simpa using hresp.2 r hr) _ _ _ fun x hx => ?_
  rw [List.eq_of_mem_replicate hx]; exact le_refl (0 : F)

/-- **Non-negativity of the greedy deconvolution.** (`hla` and `hresp` are what makes the run ok,
see `nnGreedy_eq_ok`; the conclusion itself follows from `h`, see `deconv_nonneg_of_ok`.) -/
theorem deconv_nonneg (top : F) (b : Bool) (signal resp : List F) (off la : Nat)
    (res : List F) (sum : F) (inp : List F) (_hla : 0 < la)
    (_hresp : ResponseNeg (fieldOps top) resp off la)
    (h : nnGreedy (fieldOps top) b signal resp off la = .ok (res, sum, inp)) :
    ∀ x ∈ inp, 0 ≤ x :=
  deconv_nonneg_of_ok top h

theorem deconv_nonneg_ls_of_ok (top : F) {b : Bool} {signal resp : List F}
    {offLo offHi laLo laHi : Nat} {inp : List F}
    (h : lsDeconvWith (fieldOps top) b signal resp offLo offHi laLo laHi = .ok inp) :
    ∀ x ∈ inp, 0 ≤ x :=
  lsLoop_invariant (fieldOps top) (fun l => ∀ x ∈ l, 0 ≤ x)
    (fun _ _ _ _ _ hrun => deconv_nonneg_of_ok top hrun) (by simp) h

theorem deconv_nonneg_pad_of_ok (top : F) (padResp signal inp : List F)
    (h : padDeconv (fieldOps top) padResp signal = .ok inp) : ∀ x ∈ inp, 0 ≤ x :=
  deconv_nonneg_ls_of_ok top h

end OrderedField

instance (resp : List α) (off la : Nat) : Decidable (ResponseNeg o resp off la) := by
  unfold ResponseNeg; exact inferInstance

/-- The hypotheses of `deconv_nonneg` hold for a short front-heavy negative response. -/
example : ResponseNeg (fieldOps (1000 : Rat)) [-2, -1, -1] 0 2 ∧ 0 < 2 :=
  ⟨by decide +kernel, by omega⟩

/-- … the run is then ok (`nnGreedy_eq_ok`), here on the response convolved with `[1,0,2,0,0]`;
the input is recovered exactly, residual `0`, both loops. -/
example : ∀ b, nnGreedy (fieldOps (1000 : Rat)) b [-2, -1, -5, -2, -2] [-2, -1, -1] 0 2
    = .ok ([0, 0, 0, 0, 0], 0, [1, 0, 2, 0, 0]) := by decide +kernel

/-- A run with a non-zero residual. -/
example : nnGreedy (fieldOps (1000 : Rat)) true [-2, -1, -5, -3, -2, 1] [-2, -1, -1] 0 2
    = .ok ([0, 0, 0, -1, 0, 1], 2, [1, 0, 2, 0, 0, 0]) := by decide +kernel

/-- `ls_first_strict_min` on a 2 × 2 grid: the residual sums are `5/2, 2, 98, 42` in grid order;
the second run (the first one attaining the minimum `2`) wins. -/
example : (grid 0 1 1 2).map (fun p =>
      nnGreedy (fieldOps (1000 : Rat)) true [-2, -1, -5, -3, -2, 1] [-2, -1, -1] p.1 p.2)
    = [([0, 0, 0, 0, 1/2, 3/2], 5/2, [1, 0, 2, 1/2, 0, 0]),
       ([0, 0, 0, -1, 0, 1], 2, [1, 0, 2, 0, 0, 0]),
       ([0, 8, 0, 5, 0, 3], 98, [1, 4, 0, 2, 0, 0]),
       ([0, 6, -1, 0, -2, 1], 42, [1, 3, 0, 0, 0, 0])].map .ok := by decide +kernel

example : lsDeconvWith (fieldOps (1000 : Rat)) true [-2, -1, -5, -3, -2, 1] [-2, -1, -1] 0 1 1 2
    = .ok [1, 0, 2, 0, 0, 0] := by decide +kernel

/-- The response is negative on every window of that grid (the hypothesis of `lsDeconvWith_total`). -/
example : ∀ off la, 0 ≤ off → off ≤ 1 → 1 ≤ la → la ≤ 2 →
    ResponseNeg (fieldOps (1000 : Rat)) [-2, -1, -1] off la := fun off la _ _ _ _ =>
  responseNeg_of_take _ _ 3 (by decide) (by decide +kernel) off la (by omega)

/-- `deconv_nonneg` applied to the run above. -/
example : ∀ x ∈ [1, 0, 2, 0, 0, 0], (0 : Rat) ≤ x :=
  deconv_nonneg 1000 true [-2, -1, -5, -3, -2, 1] [-2, -1, -1] 0 2 [0, 0, 0, -1, 0, 1] 2 _
    (by omega) (by decide +kernel) (by decide +kernel)

/-- `ls_first_strict_min` applied to the 2 × 2 sweep above (the four runs are its hypothesis; the
minimum 2 is at the second of them). -/
example :=
  ls_first_strict_min (1000 : Rat) true [-2, -1, -5, -3, -2, 1] [-2, -1, -1] 0 1 1 2
    [([0, 0, 0, 0, 1/2, 3/2], 5/2, [1, 0, 2, 1/2, 0, 0]),
     ([0, 0, 0, -1, 0, 1], 2, [1, 0, 2, 0, 0, 0]),
     ([0, 8, 0, 5, 0, 3], 98, [1, 4, 0, 2, 0, 0]),
     ([0, 6, -1, 0, -2, 1], 42, [1, 3, 0, 0, 0, 0])] (by decide +kernel)

end AlphaG.Deconv
