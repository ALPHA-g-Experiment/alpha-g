import AlphaG.Model.TrackInit
import Mathlib.Order.Basic
import Mathlib.Order.Defs.LinearOrder
import Mathlib.Tactic.SplitIfs
-- trap: `C14b.stepMin`/`stepMax` below compare keys with `<` over `[LinearOrder]`; with the lattice instances in
-- scope that `<` elaborates through `instDistribLatticeOfLinearOrder`, without this import through another
-- instance path: the file still compiles, but the two definitions become different (defeq) terms, and
-- whatever compares them by value (the theorems about them are stated with this elaboration) sees a change
import Mathlib.Order.Lattice
/-
List lemmas for C14b: `minmax_impl` (pairwise consumption) and `min_by`.

* membership, for any `lt` / `cmp` whatsoever (so also for `f64` with NaN);
* for a linear order: `minmaxLoop` equals two plain left folds (`firstMin`, `lastMax`), and those
  folds select the **first** minimum and the **last** maximum (decomposition lemmas);
* `minByFold`: exact panic characterisation, and — when the comparison never fails — equality with
  the `firstMin` fold (first minimum of the key).
-/
namespace AlphaG.C14b
open AlphaG AlphaG.TrackInit

section Mem
variable {P β : Type}

theorem minmaxLoop_mem (lt : β → β → Bool) (key : P → β) (l : List P) (mn mx : P) :
    ((minmaxLoop lt key l mn mx).1 = mn ∨ (minmaxLoop lt key l mn mx).1 ∈ l) ∧
    ((minmaxLoop lt key l mn mx).2 = mx ∨ (minmaxLoop lt key l mn mx).2 ∈ l) := by
  fun_induction minmaxLoop lt key l mn mx <;> grind

theorem minmaxByKey_mem (lt : β → β → Bool) (key : P → β) (l : List P) (a b : P)
    (h : (minmaxByKey lt key l).intoOption = some (a, b)) : a ∈ l ∧ b ∈ l := by
  match l, h with
  | [x], h =>
    simp only [minmaxByKey, MinMax.intoOption, Option.some.injEq, Prod.mk.injEq] at h
    simp [← h.1, ← h.2]
  | x :: y :: rest, h =>
    simp only [minmaxByKey, MinMax.intoOption, Option.some.injEq, Prod.mk.injEq] at h
    have := minmaxLoop_mem lt key rest (if !(lt (key y) (key x)) then x else y)
      (if !(lt (key y) (key x)) then y else x)
    rw [h.1, h.2] at this
    grind

theorem minmaxByKey_none_iff (lt : β → β → Bool) (key : P → β) (l : List P) :
    (minmaxByKey lt key l).intoOption = none ↔ l = [] := by
  match l with
  | [] => simp [minmaxByKey, MinMax.intoOption]
  | [x] => simp [minmaxByKey, MinMax.intoOption]
  | x :: y :: rest => simp [minmaxByKey, MinMax.intoOption]

theorem minByFold_mem {ε : Type} (cmp : P → P → Option Ordering) (site : String) (l : List P)
    (acc m : P) (h : minByFold (ε := ε) cmp site acc l = .ok m) : m = acc ∨ m ∈ l := by
  induction l generalizing acc with
  | nil => exact .inl (Outcome.ok.inj h).symm
  | cons y l ih =>
    unfold minByFold at h
    split at h
    · cases h
    · exact .inr ((ih _ h).elim (· ▸ List.mem_cons_self) (List.mem_cons_of_mem _))
    · exact (ih _ h).imp_right (List.mem_cons_of_mem _)

theorem minByFold_not_err {ε : Type} (cmp : P → P → Option Ordering) (site : String) (l : List P)
    (acc : P) (e : ε) : minByFold cmp site acc l ≠ .err e := by
  induction l generalizing acc with
  | nil => simp [minByFold]
  | cons y l ih =>
    unfold minByFold
    split
    · simp
    · exact ih _
    · exact ih _

theorem minByFold_panic_of_good {ε : Type} (cmp : P → P → Option Ordering) (bad : P → Prop)
    (hcmp : ∀ a b, cmp a b = none ↔ bad a ∨ bad b) (site : String) (l : List P) (acc : P) (hacc : ¬ bad acc)
    (s : String) : minByFold (ε := ε) cmp site acc l = .panic s ↔ s = site ∧ ∃ p ∈ l, bad p := by
  induction l generalizing acc with
  | nil => simp [minByFold]
  | cons y l ih =>
    unfold minByFold
    by_cases hy : bad y
    · rw [(hcmp acc y).2 (.inr hy)]
      exact ⟨fun h => ⟨(Outcome.panic.inj h).symm, y, List.mem_cons_self, hy⟩, fun h => h.1 ▸ rfl⟩
    · have hc : cmp acc y ≠ none := fun h => ((hcmp acc y).1 h).elim hacc hy
      have hr : (∃ p ∈ y :: l, bad p) ↔ ∃ p ∈ l, bad p := by simp [hy]
      rw [hr]
      split
      · contradiction
      · exact ih y hy
      · exact ih acc hacc

/-- **Exactly which inputs reach the `unwrap`**: `min_by` panics iff there are at least two elements and one
of them is bad. -/
theorem minByFold_panic_iff {ε : Type} (cmp : P → P → Option Ordering) (bad : P → Prop)
    (hcmp : ∀ a b, cmp a b = none ↔ bad a ∨ bad b) (site : String) (l : List P) (acc : P) (s : String) :
    minByFold (ε := ε) cmp site acc l = .panic s ↔
      s = site ∧ 2 ≤ (acc :: l).length ∧ ∃ p ∈ acc :: l, bad p := by
  by_cases hacc : bad acc
  · cases l with
    | nil => simp [minByFold]
    | cons y l =>
      unfold minByFold
      rw [(hcmp acc y).2 (.inl hacc)]
      exact ⟨fun h => ⟨(Outcome.panic.inj h).symm, by simp, acc, List.mem_cons_self, hacc⟩, fun h => h.1 ▸ rfl⟩
  · rw [minByFold_panic_of_good cmp bad hcmp site l acc hacc]
    refine and_congr_right fun _ => ⟨fun ⟨p, hp, h⟩ => ⟨?_, p, List.mem_cons_of_mem _ hp, h⟩, fun ⟨_, p, hp, h⟩ => ?_⟩
    · cases l with
      | nil => cases hp
      | cons _ _ => simp
    · rcases List.mem_cons.1 hp with rfl | hp
      · exact absurd h hacc
      · exact ⟨p, hp, h⟩

end Mem

section Best
variable {P : Type}

/-- A fold that replaces the accumulated element `m` by `x` whenever `r x m` ("`x` beats `m`") splits the list
around its result: the result beats everything before it and nothing after it beats the result. `r` is
transitive and `r a b → r a c ∨ r c b` (both hold for `<` and for `≥` of a linear order). -/
theorem foldl_best_spec {r : P → P → Prop} [DecidableRel r] (htrans : ∀ {a b c}, r a b → r b c → r a c)
    (hco : ∀ {a b c}, r a b → ¬ r c b → r a c) (l : List P) (acc : P) (pre post : List P)
    (hpre : ∀ p ∈ pre, r acc p) (hpost : ∀ p ∈ post, ¬ r p acc) :
    ∃ pre' post', pre ++ acc :: post ++ l = pre' ++ l.foldl (fun m x => if r x m then x else m) acc :: post' ∧
      (∀ p ∈ pre', r (l.foldl (fun m x => if r x m then x else m) acc) p) ∧
      (∀ p ∈ post', ¬ r p (l.foldl (fun m x => if r x m then x else m) acc)) := by
  induction l generalizing acc pre post with
  | nil => exact ⟨pre, post, (List.append_nil _), hpre, hpost⟩
  | cons x l ih =>
    rw [List.foldl_cons]
    split
    next hx =>
      rw [List.append_cons]
      refine ih x (pre ++ acc :: post) [] (fun p hp => ?_) nofun
      rcases List.mem_append.1 hp with hp | hp
      · exact htrans hx (hpre p hp)
      · rcases List.mem_cons.1 hp with rfl | hp
        · exact hx
        · exact hco hx (hpost p hp)
    next hx =>
      have := ih acc pre (post ++ [x]) hpre fun p hp => (List.mem_append.1 hp).elim (hpost p)
        fun h => List.mem_singleton.1 h ▸ hx
      rwa [← List.cons_append, ← List.append_assoc, List.append_assoc _ [x], List.singleton_append] at this

end Best

section Linear
variable {P β : Type} [LinearOrder β]

/-- Keep the accumulated minimum unless the new key is strictly smaller. -/
def stepMin (key : P → β) (m x : P) : P := if key x < key m then x else m
/-- Replace the accumulated maximum unless the new key is strictly smaller. -/
def stepMax (key : P → β) (m x : P) : P := if key x < key m then m else x

/-- First minimum of `acc :: l`. -/
def firstMin (key : P → β) (acc : P) (l : List P) : P := l.foldl (stepMin key) acc
/-- Last maximum of `acc :: l`. -/
def lastMax (key : P → β) (acc : P) (l : List P) : P := l.foldl (stepMax key) acc

theorem stepMin_le (key : P → β) (m x : P) : key (stepMin key m x) ≤ key m := by
  unfold stepMin; split_ifs with h
  · exact le_of_lt h
  · exact le_refl _

theorem le_stepMax (key : P → β) (m x : P) : key m ≤ key (stepMax key m x) := by
  unfold stepMax; split_ifs with h
  · exact le_refl _
  · exact not_lt.1 h

theorem ite_min_eq (key : P → β) (mn a : P) :
    (if decide (key a < key mn) = true then a else mn) = stepMin key mn a := by
  simp [stepMin]

theorem ite_max_eq (key : P → β) (mx b : P) :
    (if (!decide (key b < key mx)) = true then b else mx) = stepMax key mx b := by
  unfold stepMax; by_cases h : key b < key mx <;> simp [h]

/-- What `minmax_impl` relies on: of a pair only the smaller element (the first on a tie) can become the
minimum, and only the larger (the last on a tie) the maximum. -/
theorem stepMin_pair (key : P → β) (mn a b : P) :
    stepMin key (stepMin key mn a) b = stepMin key mn (if key b < key a then b else a) := by
  unfold stepMin; grind

theorem stepMax_pair (key : P → β) (mx a b : P) :
    stepMax key (stepMax key mx a) b = stepMax key mx (if key b < key a then a else b) := by
  unfold stepMax; grind

/-- `minmax_impl`'s pairwise loop computes the two plain folds (given `key mn ≤ key mx`, which
holds for the state built from the first two elements and is preserved). -/
theorem minmaxLoop_eq (key : P → β) (l : List P) (mn mx : P) (h : key mn ≤ key mx) :
    minmaxLoop (fun a b => decide (a < b)) key l mn mx = (firstMin key mn l, lastMax key mx l) := by
  fun_induction minmaxLoop (fun a b => decide (a < b)) key l mn mx with
  | case1 mn mx => rfl
  | case2 a mn mx hlt =>
    simp only [decide_eq_true_eq] at hlt
    simp only [firstMin, lastMax, List.foldl, stepMin, stepMax, hlt, if_true, Prod.mk.injEq, true_and]
    rw [if_pos (lt_of_lt_of_le hlt h)]
  | case3 a mn mx hlt hge | case4 a mn mx hlt hge =>
    simp only [decide_eq_true_eq, Bool.not_eq_true', decide_eq_false_iff_not] at hlt hge
    simp [firstMin, lastMax, List.foldl, stepMin, stepMax, hlt, hge]
  | case5 a b rest mn mx hba ih | case6 a b rest mn mx hba ih =>
    -- whichever of the pair is smaller (the first on a tie) goes to the minimum, the other to the maximum
    simp only [Bool.not_eq_true', decide_eq_false_iff_not, not_not] at hba
    rw [ite_min_eq, ite_max_eq] at ih ⊢
    rw [ih (le_trans (stepMin_le key mn _) (le_trans h (le_stepMax key mx _)))]
    simp only [firstMin, lastMax, List.foldl, stepMin_pair, stepMax_pair, hba, if_true, if_false]

/-- `minmax_by_key` on a non-empty list is `(first minimum, last maximum)`. -/
theorem minmaxByKey_eq (key : P → β) (x : P) (l : List P) :
    (minmaxByKey (fun a b => decide (a < b)) key (x :: l)).intoOption
      = some (firstMin key x l, lastMax key x l) := by
  match l with
  | [] => simp [minmaxByKey, MinMax.intoOption, firstMin, lastMax]
  | y :: rest =>
    simp only [minmaxByKey, MinMax.intoOption, Bool.not_eq_true',
      decide_eq_false_iff_not, Option.some.injEq]
    by_cases h : key y < key x
    · rw [minmaxLoop_eq key rest _ _ (by simp [h, le_of_lt h])]
      simp [firstMin, lastMax, List.foldl, stepMin, stepMax, h]
    · rw [minmaxLoop_eq key rest _ _ (by simp [h, not_lt.1 h])]
      simp [firstMin, lastMax, List.foldl, stepMin, stepMax, h]

theorem firstMin_spec (key : P → β) (l : List P) (acc : P) :
    ∃ pre post, acc :: l = pre ++ firstMin key acc l :: post ∧
      (∀ p ∈ pre, key (firstMin key acc l) < key p) ∧ (∀ p ∈ post, key (firstMin key acc l) ≤ key p) := by
  obtain ⟨pre, post, e, h1, h2⟩ := foldl_best_spec (r := fun a b : P => key a < key b) lt_trans
    (fun h h' => lt_of_lt_of_le h (not_lt.1 h')) l acc [] [] nofun nofun
  exact ⟨pre, post, e, h1, fun p hp => not_lt.1 (h2 p hp)⟩

theorem lastMax_spec (key : P → β) (l : List P) (acc : P) :
    ∃ pre post, acc :: l = pre ++ lastMax key acc l :: post ∧
      (∀ p ∈ pre, key p ≤ key (lastMax key acc l)) ∧ (∀ p ∈ post, key p < key (lastMax key acc l)) := by
  obtain ⟨pre, post, e, h1, h2⟩ := foldl_best_spec (r := fun a b : P => ¬ key a < key b)
    (fun h h' => not_lt.2 (le_trans (not_lt.1 h') (not_lt.1 h)))
    (fun h h' => not_lt.2 (le_trans (le_of_lt (not_not.1 h')) (not_lt.1 h))) l acc [] [] nofun nofun
  have hf : (fun m x : P => if ¬ key x < key m then x else m) = stepMax key := by
    funext m x; exact ite_not _ _ _
  rw [hf] at e h1 h2
  exact ⟨pre, post, e, fun p hp => not_lt.1 (h1 p hp), fun p hp => not_not.1 (h2 p hp)⟩

theorem minByFold_eq_firstMin {ε : Type} (key : P → β) (site : String) (l : List P) (acc : P) :
    minByFold (ε := ε) (fun a b => some (compare (key a) (key b))) site acc l = .ok (firstMin key acc l) := by
  induction l generalizing acc with
  | nil => rfl
  | cons y l ih =>
    rw [firstMin, List.foldl_cons, ← firstMin, stepMin]
    unfold minByFold
    split
    next h => cases h
    next h => rw [ih, if_pos (compare_gt_iff_gt.1 (Option.some.inj h))]
    next hgt h => rw [ih, if_neg fun hlt => hgt (Option.some.inj h ▸ compare_gt_iff_gt.2 hlt)]

end Linear

end AlphaG.C14b
