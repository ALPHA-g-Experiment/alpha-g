import AlphaG.Lemmas.ClusterAcc
import AlphaG.Lemmas.ClusterFlood
/-
The three loops of `cluster_spacepoints`: `best_cluster`, the outer loop, the remainder
bookkeeping. Invariants follow DESIGN.md section 12: inside `best_cluster` the multiset
`accumulator + prev_best` is constant and `|prev_best|` strictly increases; across the outer
loop `accumulator + Σ clusters = sp`. Every cluster is a value of `largestCluster`
(`largestCluster near [] = []` covers the initial `prev_best`). Core Lean only.
-/
namespace AlphaG.Cluster

/-- `best_cluster` with enough fuel returns; `accumulator + prev_best` is conserved; the result
is an output of `largest_cluster`. -/
theorem bestCluster_spec {ctx : Ctx} (g : ctx.Good) (sp : List Nat) (fuel : Nat) (acc : Acc)
    (prev : List Nat) (m : Nat → Nat) (inv : InvC ctx acc m)
    (hle : ∀ x, m x + cnt ctx x prev ≤ cnt ctx x sp) (hfuel : sp.length < fuel + prev.length)
    (hprev : ∃ pts, prev = largestCluster ctx.near pts) :
    ∃ acc' prev' m', bestCluster ctx fuel acc prev = .ok (acc', prev') ∧ InvC ctx acc' m' ∧
      (∀ x, m' x + cnt ctx x prev' = m x + cnt ctx x prev) ∧
      ∃ pts, prev' = largestCluster ctx.near pts := by
  induction fuel generalizing acc prev m with
  | zero =>
    have := length_le_of_cnt_le g prev sp fun x => Nat.le_trans (Nat.le_add_left _ _) (hle x)
    omega
  | succ fuel ih =>
    rw [bestCluster]
    generalize hbest : largestCluster ctx.near (mostPopular acc) = best
    have hbm : ∀ x, cnt ctx x best ≤ m x := fun x =>
      hbest ▸ Nat.le_trans (largestCluster_le ctx ctx.near _ x) (mostPopular_le inv x)
    split
    · exact ⟨acc, prev, m, rfl, inv, fun _ => rfl, hprev⟩
    · next hbr =>
      obtain ⟨acc1, h1, inv1⟩ := removeAll_inv g best inv hbm
      simp only [h1]
      have hbl := length_le_of_cnt_le g best sp fun x => by have := hle x; have := hbm x; omega
      obtain ⟨acc', prev', m', hr, inv', hm', hp'⟩ := ih (addAll ctx prev acc1) best _
        (addAll_inv g prev inv1) (fun x => by have := hle x; have := hbm x; omega) (by omega)
        ⟨_, hbest.symm⟩
      exact ⟨acc', prev', m', hr, inv', fun x => by have := hm' x; have := hbm x; omega, hp'⟩

/-- The outer loop with enough fuel returns; what it has clustered is a sub-multiset of `sp`; every
cluster it adds has at least `min` points and is an output of `largest_cluster`. Fuel: a round that
goes on appends a cluster of at least `min ≥ 1` points (`hmin`), so `fuel + |clustered|` stays above
`|sp|`; at fuel `0` that contradicts the clustered points being a sub-multiset of `sp`. -/
theorem outer_spec {ctx : Ctx} (g : ctx.Good) (sp : List Nat) (min n : Nat) (hmin : 1 ≤ min)
    (hn : sp.length ≤ n) (fuel : Nat) (acc : Acc) (cls : List (List Nat)) (m : Nat → Nat)
    (inv : InvC ctx acc m) (hm : ∀ x, m x + cnt ctx x cls.flatten = cnt ctx x sp)
    (hfuel : sp.length < fuel + cls.flatten.length) :
    ∃ out, outer ctx min n fuel acc cls = .ok out ∧
      (∀ x, cnt ctx x out.flatten ≤ cnt ctx x sp) ∧
      (∀ c ∈ out, c ∈ cls ∨ (min ≤ c.length ∧ ∃ pts, c = largestCluster ctx.near pts)) := by
  induction fuel generalizing acc cls m with
  | zero =>
    have := length_le_of_cnt_le g _ sp fun x =>
      Nat.le_trans (Nat.le_add_left _ _) (Nat.le_of_eq (hm x))
    omega
  | succ fuel ih =>
    rw [outer]
    obtain ⟨acc', c, m', hr, inv', hm', hp'⟩ := bestCluster_spec g sp (n + 1) acc [] m inv
      (fun x => by have := hm x; simp; omega) (by simp; omega) ⟨[], rfl⟩
    simp only [hr]
    split
    · exact ⟨cls, rfl, fun x => by have := hm x; omega, fun c hc => .inl hc⟩
    · next hc =>
      have hfl : (cls ++ [c]).flatten = cls.flatten ++ c := by simp
      obtain ⟨out, ho, h1, h2⟩ := ih acc' (cls ++ [c]) m' inv'
        (fun x => by rw [hfl, cnt_append]; have := hm x; have := hm' x; simp at this; omega)
        (by rw [hfl, List.length_append]; omega)
      refine ⟨out, ho, h1, fun d hd => (h2 d hd).elim (fun h => ?_) .inr⟩
      rcases List.mem_append.1 h with h | h
      · exact .inl h
      · exact .inr (List.mem_singleton.1 h ▸ ⟨by omega, hp'⟩)

/-- The remainder bookkeeping: `position(..).unwrap()` is safe while the removed points form a
sub-multiset of what is left. -/
theorem removeFromSp_spec {ctx : Ctx} (g : ctx.Good) (l sp : List Nat)
    (hle : ∀ x, cnt ctx x l ≤ cnt ctx x sp) :
    ∃ rem, removeFromSp ctx l sp = .ok rem ∧ ∀ x, cnt ctx x rem + cnt ctx x l = cnt ctx x sp := by
  induction l generalizing sp with
  | nil => exact ⟨sp, rfl, fun _ => rfl⟩
  | cons p l ih =>
    rw [removeFromSp]
    cases hpo : position (fun q => ctx.eq q p) sp with
    | none =>
      exact absurd hpo (position_ne_none g
        (Nat.lt_of_lt_of_le (cnt_self_pos g List.mem_cons_self) (hle p)))
    | some i =>
      have hc := cnt_swapRemove_position g hpo
      obtain ⟨rem, hr, hrem⟩ := ih (swapRemove sp i) fun x => by
        have := hle x; have := hc x; rw [cnt_cons] at *; omega
      exact ⟨rem, hr, fun x => by have := hrem x; have := hc x; rw [cnt_cons]; omega⟩

theorem fill_inv {ctx : Ctx} (g : ctx.Good) (sp : List Nat) :
    InvC ctx (fill ctx sp) (fun x => cnt ctx x sp) :=
  (addAll_inv g sp (InvC.empty ctx)).congr fun _ => Nat.zero_add _

/-- Everything `cluster` guarantees: it returns, conserves the input modulo `==`, and every
cluster has at least `min` points and is an output of `largest_cluster`. -/
theorem cluster_spec {ctx : Ctx} (g : ctx.Good) (min : Nat) (hmin : 1 ≤ min) (sp : List Nat) :
    ∃ r, cluster ctx min sp = .ok r ∧
      (∀ x, cnt ctx x r.clusters.flatten + cnt ctx x r.remainder = cnt ctx x sp) ∧
      (∀ c ∈ r.clusters, min ≤ c.length ∧ ∃ pts, c = largestCluster ctx.near pts) := by
  obtain ⟨out, ho, h1, h2⟩ := outer_spec g sp min sp.length hmin (Nat.le_refl _)
    (sp.length + 1) (fill ctx sp) [] _ (fill_inv g sp) (by intro x; simp) (by simp)
  obtain ⟨rem, hr, hrem⟩ := removeFromSp_spec g out.flatten sp h1
  refine ⟨⟨out, rem⟩, by simp only [cluster, ho, hr], fun x => by have := hrem x; simp only; omega,
    fun c hc => (h2 c hc).resolve_left (List.not_mem_nil)⟩

/-- The same about any `.ok` result. -/
theorem cluster_ok {ctx : Ctx} (g : ctx.Good) {min : Nat} (hmin : 1 ≤ min) {sp : List Nat}
    {r : Result} (h : cluster ctx min sp = .ok r) :
    (∀ x, cnt ctx x r.clusters.flatten + cnt ctx x r.remainder = cnt ctx x sp) ∧
      (∀ c ∈ r.clusters, min ≤ c.length ∧ ∃ pts, c = largestCluster ctx.near pts) := by
  obtain ⟨r', hr, hs⟩ := cluster_spec g min hmin sp
  cases hr.symm.trans h
  exact hs

end AlphaG.Cluster
