import AlphaG.Lemmas.EventInv
import AlphaG.Lemmas.EventSpec
/-
The two loops of `try_from_banks` against the specification. First loop: the effect of one
successful iteration in terms of what the bank delivers (`Effect`), and from it the state after
the banks `done` in closed form (`Loop1`). Second loop: the pad slots are filled from the hits of
the groups done (`groupLoop_filled`).
-/
namespace AlphaG.Event
open AlphaG AlphaG.Generated AlphaG.Maps

variable {α : Type} (ops : Ops α)

/-- The wire slots hold what the hit lists `L` demand, and no wire has two waveforms. -/
abbrev WireFilled (run : Nat) (wire : Array (Option (List α))) (L : Nat → List (List Int)) :=
  Filled 256 (· < 256) (fun w => w) (wireSignal ops run) wire L

/-- The effect of a successful iteration on the state, in terms of what the bank delivers: the
state is the old one plus the deliveries; of the wire slots `frame` says nothing (`st'.wire` on the
right), `wire` does. -/
structure Effect (run : Nat) (b : Bank) (st st' : St α) : Prop where
  frame : st' =
    { wire := st'.wire, pad := st.pad, ts := (trgOf b).or st.ts,
      groups := (chunkOf b).toList.foldl (fun gs kc => pushChunk kc.1 kc.2 gs) st.groups,
      wireNames := st.wireNames ++ (wireName b).toList }
  fresh : ∀ x, wireName b = some x → x ∉ st.wireNames
  tsFree : (trgOf b).isSome → st.ts = none
  wire : ∀ L, WireFilled ops run st.wire L →
    WireFilled ops run st'.wire fun w => L w ++ hitsOf run w b

theorem bankStep_effect {run : Nat} {b : Bank} {st st' : St α}
    (h : bankStep ops run b st = .ok st') : Effect ops run b st st' := by
  obtain ⟨nm, hnm⟩ := bankStep_ok_name ops h
  rw [bankStep_eq ops st hnm] at h
  obtain ⟨dn, dt, dc, dw⟩ := delivers hnm
  have nohit : nm.kind ≠ .adc32 → ∀ L, WireFilled ops run st.wire L →
      WireFilled ops run st.wire fun w => L w ++ hitsOf run w b :=
    fun hk L hL => hL.congr fun w => by rw [hitsOf, dw hk]; exact List.append_nil _
  cases hk : nm.kind with
  | adc32 =>
    rw [hk] at h
    have hfr := wireBank_frame ops h
    obtain ⟨p, hp, hpk⟩ := wireBank_ok ops h
    obtain ⟨ch, hch, hnew, _, hwf⟩ := wirePacket_ok ops hpk
    rw [if_pos hk] at dn
    have hit := wireHit_of_kind hnm hk hp hch run
    refine {
      frame := by rw [dn, dt (by simp [hk]), dc (by simp [hk])]; exact hfr
      fresh := fun x hx => by simpa [← Option.some.inj (dn.symm.trans hx)] using hnew
      tsFree := by simp [dt, hk]
      wire := fun L hL => ?_ }
    rcases hwf with ⟨he, rfl⟩ | ⟨_, hstore⟩
    · refine hL.congr fun w => ?_
      rw [hitsOf, hit, he]; split <;> simp [afterWireDelay]
    · obtain ⟨w₀, bl, g, d, hpos, hlt, hfree, hbl, hg, hd, rfl⟩ := wireStore_ok ops hstore
      have e : calibrate ops bl (ops.ofBits g) d p.waveform = wireSignal ops run w₀ p.waveform := by
        simp only [wireSignal, hbl, hg, hd, okD]
      rw [e, apply_ite St.wire]
      refine hL.storeIf (fun _ _ _ _ hh => hh) hlt hfree fun w => ?_
      rw [hitsOf, hit, hpos]
      by_cases hw : w = w₀ <;>
        simp [hw, eq_comm (a := w₀), List.filter_cons, afterWireDelay, wireSignal,
          calibrate_isEmpty]
  | padwing =>
    rw [hk] at h
    obtain ⟨c, hc, _, rfl⟩ := padwingBank_ok h
    exact {
      frame := by simp [dn, dt, hk, chunkOf_of_kind hnm hk hc]
      fresh := by simp [dn, hk]
      tsFree := by simp [dt, hk]
      wire := nohit (by simp [hk]) }
  | trg =>
    rw [hk] at h
    obtain ⟨p, hp, hnone, rfl⟩ := trgBank_ok h
    exact {
      frame := by simp [dn, dc, hk, trgOf_of_kind hnm hk hp]
      fresh := by simp [dn, hk]
      tsFree := fun _ => hnone
      wire := nohit (by simp [hk]) }
  | _ =>
    rw [hk] at h; cases h
    exact {
      frame := by simp [dn, dt, dc, hk]
      fresh := by simp [dn, hk]
      tsFree := by simp [dt, hk]
      wire := nohit (by simp [hk]) }

/-- The state of the first loop is determined by the banks done: recorded names, timestamp, chunk
groups and wire slots are what the specification functions say, and no name, TRG bank or wire
occurred twice. -/
structure Loop1 (run : Nat) (st : St α) (done : List Bank) : Prop where
  names : st.wireNames = done.filterMap wireName
  nodup : (done.filterMap wireName).Nodup
  ts : st.ts = pick1 id (done.filterMap trgOf)
  ts1 : (done.filterMap trgOf).length ≤ 1
  groups : st.groups = groupsOf done
  pad : st.pad = (St.init : St α).pad
  wire : WireFilled ops run st.wire (fun w => wireHits run w done)

theorem loop1_init (run : Nat) : Loop1 ops run (St.init : St α) [] :=
  ⟨rfl, List.nodup_nil, rfl, Nat.zero_le _, rfl, rfl, filled_replicate fun _ h => h⟩

theorem bankStep_loop1 {run : Nat} (st st' : St α) (done : List Bank) (b : Bank)
    (h : bankStep ops run b st = .ok st') (hinv : Loop1 ops run st done) :
    Loop1 ops run st' (done ++ [b]) := by
  have e := bankStep_effect ops h
  have hts : st'.ts = pick1 id ((done ++ [b]).filterMap trgOf)
      ∧ ((done ++ [b]).filterMap trgOf).length ≤ 1 := by
    rw [e.frame, filterMap_snoc]
    cases ht : trgOf b with
    | none => simpa using ⟨hinv.ts, hinv.ts1⟩
    | some t =>
      have hn := pick1_none (hinv.ts.symm.trans (e.tsFree (by simp [ht]))) hinv.ts1
      simp [hn, pick1]
  refine ⟨by rw [e.frame, hinv.names, filterMap_snoc], ?_, hts.1, hts.2,
    by rw [e.frame, hinv.groups, groupsOf_snoc], by rw [e.frame]; exact hinv.pad, ?_⟩
  · rw [filterMap_snoc, List.nodup_append]
    refine ⟨hinv.nodup, by cases wireName b <;> simp, fun x hx y hy => ?_⟩
    rintro rfl
    exact e.fresh x (by simpa using hy) (hinv.names ▸ hx)
  · exact (e.wire _ hinv.wire).congr fun w => wireHits_snoc run w done b

theorem bankLoop_loop1 {run : Nat} {banks : List Bank} {st : St α}
    (h : bankLoop ops run banks St.init = .ok st) : Loop1 ops run st banks := by
  rw [bankLoop_eq] at h
  simpa using Outcome.foldlM_ok_inv (bankStep_loop1 ops) banks _ st [] h (loop1_init ops run)

theorem bankLoop_names {run : Nat} : ∀ (banks : List Bank) (st st' : St α),
    bankLoop ops run banks st = .ok st' → ∀ x, x ∈ st.wireNames → x ∈ st'.wireNames := by
  intro banks st st' h x hx
  rw [bankLoop_eq] at h
  exact Outcome.foldlM_ok_inv (P := fun st _ => x ∈ st.wireNames)
    (fun s s' _ b hs hm => by rw [(bankStep_effect ops hs).frame]; exact List.mem_append_left _ hm)
    banks st st' [] h hx

/-- After a successful anode-wire bank its name is recorded. -/
theorem wireBank_records {run : Nat} {nm : BankName.Name} {data : List UInt8} {st st' : St α}
    (h : wireBank ops run nm data st = .ok st') : (nm.board, nm.channel) ∈ st'.wireNames := by
  rw [wireBank_frame ops h]; simp

abbrev padValid (cr : Nat × Nat) : Prop := cr.1 < 32 ∧ cr.2 < 576
abbrev padIdx (cr : Nat × Nat) : Nat := cr.1 * 576 + cr.2

theorem padIdx_inj (i j : Nat × Nat) (hi : padValid i) (hj : padValid j) (h : padIdx i = padIdx j) :
    i = j := by
  unfold padValid padIdx at *
  exact Prod.ext (by omega) (by omega)

/-- The pad slots hold what the hit lists `L` demand, and no pad has two waveforms. -/
abbrev PadFilled (run : Nat) (pad : Array (Option (List α))) (L : Nat × Nat → List (List Int)) :=
  Filled (32 * 576) padValid padIdx (padSignal ops run) pad L

theorem padStore_filled {run n : Nat} {wf : List Int} {p : Pwb.PwbPacket}
    {pad pad' : Array (Option (List α))} {L : Nat × Nat → List (List Int)}
    (hwf : Pwb.waveformAt p (.pad n) = .ok (some wf))
    (h : padStore ops run (pwbRow p) p.afterId n wf pad = .ok pad') (hinv : PadFilled ops run pad L) :
    PadFilled ops run pad' (fun cr => L cr ++ chanHit run cr.1 cr.2 p (.pad n)) := by
  obtain ⟨pos, bl, g, d, hpos, hpc, hpr, hfree, hbl, hg, hd, rfl⟩ := padStore_ok ops h
  have e : calibrate ops bl (ops.ofBits g) d wf = padSignal ops run pos wf := by
    simp only [padSignal, hbl, hg, hd, okD]
  rw [e]
  refine hinv.storeIf padIdx_inj ⟨hpc, hpr⟩ hfree fun cr => ?_
  by_cases hc : cr = pos <;>
    simp [chanHit, hpos, hwf, hc, eq_comm (a := pos), afterPadDelay, padSignal, calibrate_isEmpty]

theorem chanStep_filled {run : Nat} {p : Pwb.PwbPacket} (L : Nat × Nat → List (List Int))
    (pad pad' : Array (Option (List α))) (done : List Pwb.ChannelId) (c : Pwb.ChannelId)
    (h : chanStep ops run (pwbRow p) p.afterId p pad c = .ok pad')
    (hinv : PadFilled ops run pad (fun cr => L cr ++ packetHits run cr.1 cr.2 p done)) :
    PadFilled ops run pad' (fun cr => L cr ++ packetHits run cr.1 cr.2 p (done ++ [c])) := by
  cases c with
  | pad n =>
    simp only [chanStep] at h
    split at h <;> try cases h
    rename_i wf hwf
    exact (padStore_filled ops hwf h hinv).congr fun cr => by simp [packetHits]
  | _ => cases h; exact hinv.congr fun cr => by simp [packetHits, chanHit]

theorem groupStep_filled {run : Nat} (pad pad' : Array (Option (List α))) (done : List Group)
    (g : Group) (h : groupStep ops run g pad = .ok pad')
    (hinv : PadFilled ops run pad (fun cr => padHits run cr.1 cr.2 done)) :
    PadFilled ops run pad' (fun cr => padHits run cr.1 cr.2 (done ++ [g])) := by
  obtain ⟨p, hp, hk1, hk2, hcl⟩ := groupStep_ok ops h
  have hlt := (pwb_facts _ p (Pwb.reassemble_ok_eq_direct g.2 p hp)).1
  rw [keyRow_eq hk1, keyChip_eq hk2 hlt, channelLoop_eq] at hcl
  have := Outcome.foldlM_ok_inv (chanStep_filled ops fun cr => padHits run cr.1 cr.2 done)
    p.channelsSent pad pad' [] hcl (hinv.congr fun cr => by simp [packetHits])
  exact this.congr fun cr => by simp [padHits, groupHits, hp]

theorem padFilled_init (run : Nat) :
    PadFilled ops run (St.init : St α).pad (fun _ => []) :=
  filled_replicate fun cr h => by
    show cr.1 * 576 + cr.2 < 32 * 576
    have := h.1; have := h.2; omega

theorem groupLoop_filled {run : Nat} {gs : List Group} {pad' : Array (Option (List α))}
    (h : groupLoop ops run gs (St.init : St α).pad = .ok pad') :
    PadFilled ops run pad' (fun cr => padHits run cr.1 cr.2 gs) := by
  rw [groupLoop_eq] at h
  simpa using Outcome.foldlM_ok_inv (groupStep_filled ops) gs _ pad' [] h
    ((padFilled_init ops run).congr fun cr => by simp [padHits])

/-- `ev` is the event the specification describes for `banks`: every wire and pad slot holds the
signal of its one waveform, the timestamp is that of the one TRG packet. -/
structure IsEventOf (run : Nat) (banks : List Bank) (ev : Event α) : Prop where
  wire : WireFilled ops run ev.wire (fun w => wireHits run w banks)
  pad : PadFilled ops run ev.pad (fun cr => padHits run cr.1 cr.2 (groupsOf banks))
  ts : some ev.ts = pick1 id (banks.filterMap trgOf)

theorem IsEventOf.unique {run : Nat} {banks : List Bank} {ev ev' : Event α}
    (h : IsEventOf ops run banks ev) (h' : IsEventOf ops run banks ev') : ev = ev' := by
  cases ev; cases ev'
  congr 1
  · exact h.wire.ext h'.wire fun k hk => ⟨k, hk, rfl⟩
  · exact h.pad.ext h'.pad fun k hk => ⟨(k / 576, k % 576), ⟨by omega, by omega⟩,
      by show k / 576 * 576 + k % 576 = k; omega⟩
  · exact Option.some.inj (h.ts.trans h'.ts.symm)

theorem isEventOf_of_ok {order : GroupOrder} {run : Nat} {banks : List Bank} {ev : Event α}
    (h : buildEventWith ops order run banks = .ok ev) : IsEventOf ops run banks ev := by
  obtain ⟨st, pad, ts, h1, h2, h3, rfl⟩ := build_ok ops h
  have inv := bankLoop_loop1 ops h1
  rw [inv.pad, inv.groups] at h2
  exact ⟨inv.wire, (groupLoop_filled ops h2).perm fun cr => List.Perm.flatMap_right _ (order.perm _),
    by rw [← inv.ts, h3]⟩

end AlphaG.Event
