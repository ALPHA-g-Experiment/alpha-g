import AlphaG.Lemmas.DeconvBasic
import AlphaG.Lemmas.DeconvScale
/-
`isolated_pulse`: a single avalanche of amplitude `a > 0` at sample `k`, i.e. the signal
`a · response` shifted by `k` (truncated at the end of the waveform), is deconvolved to exactly one
spike of amplitude `a` at index `k` and zeros elsewhere — over an exact linearly ordered field
(`fieldOps top`, `0 < top`), by any sweep whose first grid point has offset `0`
(`isolated_pulse_ls`); for the wire settings of `wire_range_deconvolution` (`offset ∈ 0..=1`,
`look_ahead ∈ 3..=12`) that is any response negative on its first 13 samples, which is what the
Rust `assert!` demands there (`isolated_pulse`).
The loop is followed on `naive` (`loopResult_eq_naive`): it advances to `k` over zeros
(`naive_skip_to`), takes one step there, and advances to the end over the zero residual.
The pulse also meets the hypotheses of the scaling statement `deconv_scale_field_first`
(`isolated_pulse_scale`).
-/
namespace AlphaG.Deconv
open Lean Grind Std

section generic
variable {α : Type} (o : Ops α)

-- trap: the elaborated body of `pulse` below refers to `subScaled_getElem?.match_1`, the matcher Lean
-- makes for the `match` in this statement and reuses for the same `match` in `pulse`. Renaming this
-- theorem, making it public or moving it behind `pulse` gives the matcher another name, and with it
-- the definition `pulse` another value (a defeq one: no proof breaks, but whatever compares the
-- definitions of the development by value sees `pulse` changed).
private theorem subScaled_getElem? (v : α) (ss rs : List α) (j : Nat) :
    (subScaled o v ss rs)[j]? =
      (ss[j]?).map fun s => match rs[j]? with
        | some r => o.sub s (o.mul v r)
        | none => s := by
  induction ss generalizing rs j with
  | nil => cases rs <;> simp [subScaled]
  | cons s ss ih =>
    cases rs with
    | nil => simp [subScaled]
    | cons r rs => cases j <;> simp [subScaled, ih]

private theorem applyAt_getElem? (res resp : List α) (i : Nat) (v : α) (j : Nat)
    (hi : i ≤ res.length) :
    (applyAt o res resp i v)[j]? =
      if j < i then res[j]? else
        (res[j]?).map fun s => match resp[j - i]? with
          | some r => o.sub s (o.mul v r)
          | none => s := by
  rw [applyAt, List.getElem?_append, List.length_take, Nat.min_eq_left hi, List.getElem?_take,
    subScaled_getElem?, List.getElem?_drop]
  split
  · rfl
  · rw [show i + (j - i) = j by omega]

end generic

/-- The signal of one avalanche of amplitude `a` at sample `k`: `a · response` shifted by `k`,
truncated at the end of the waveform (`n` samples), zero before `k` and after the end of the
response. -/
def pulse {F : Type} [Field F] (n k : Nat) (a : F) (resp : List F) : List F :=
  (List.range n).map fun j =>
    if k ≤ j then (match resp[j - k]? with | some r => a * r | none => 0) else 0

section fieldBasic
variable {F : Type} [Field F]

@[simp] theorem pulse_length (n k : Nat) (a : F) (resp : List F) :
    (pulse n k a resp).length = n := by simp [pulse]

theorem pulse_getElem (n k : Nat) (a : F) (resp : List F) (j : Nat) (hj : j < n) :
    (pulse n k a resp)[j]'(by simpa using hj) =
      if k ≤ j then (match resp[j - k]? with | some r => a * r | none => 0) else 0 := by
  simp [pulse]

theorem pulse_getElem? (n k : Nat) (a : F) (resp : List F) (j : Nat) :
    (pulse n k a resp)[j]? =
      if j < n then
        some (if k ≤ j then (match resp[j - k]? with | some r => a * r | none => 0) else 0)
      else none := by
  by_cases hj : j < n
  · rw [List.getElem?_eq_getElem (by simpa using hj), pulse_getElem n k a resp j hj, if_pos hj]
  · rw [List.getElem?_eq_none (by simpa using hj), if_neg hj]

theorem set_zeros_eq_spike (n k : Nat) (a : F) :
    (List.replicate n (0 : F)).set k a = (List.range n).map fun j => if j = k then a else 0 := by
  apply List.ext_getElem?
  intro j
  simp only [List.getElem?_set, List.getElem?_map, List.getElem?_replicate, List.length_replicate]
  by_cases hj : j < n <;> by_cases hjk : k = j <;> simp [hj, hjk, eq_comm (a := j)]

theorem pulse_scale (n k : Nat) (a c : F) (resp : List F) :
    (pulse n k a resp).map (c * ·) = pulse n k (c * a) resp := by
  simp only [pulse, List.map_map]
  apply List.map_congr_left
  intro j _
  simp only [Function.comp]
  split
  · cases resp[j - k]? with
    | none => simp only []; grind
    | some r => simp only []; grind
  · grind

end fieldBasic

section field
variable {F : Type} [Field F] [LE F] [LT F] [LawfulOrderLT F] [IsLinearOrder F] [OrderedRing F]
  [DecidableLT F] [DecidableLE F]

theorem sumSq_nonneg (top : F) (res : List F) : 0 ≤ sumSq (fieldOps top) res :=
  List.foldlRecOn (motive := fun acc : F => 0 ≤ acc) res _ (le_refl 0) fun acc h x _ => by
    have : 0 ≤ x * x := by have := OrderedRing.sq_nonneg (a := x); grind
    simp only [fieldOps_add, fieldOps_mul]; grind

omit [LawfulOrderLT F] [IsLinearOrder F] [OrderedRing F] in
theorem sumSq_zeros (top : F) (n : Nat) :
    sumSq (fieldOps top) (List.replicate n (0 : F)) = 0 := by
  unfold sumSq
  induction n with
  | zero => rfl
  | succ n ih =>
    have h0 : (fieldOps top).sumInit + 0 * 0 = (fieldOps top).sumInit := by
      simp only [fieldOps_sumInit]; grind
    rw [List.replicate_succ, List.foldl_cons, fieldOps_add, fieldOps_mul, h0]
    exact ih

/-- Once the best sum of squares is `0`, no grid point whose guards pass can replace it
(`residual < best_residual` is strict and sums of squares are `≥ 0`). -/
theorem lsLoop_keep (top : F) (b : Bool) (signal resp : List F) (g : List (Nat × Nat))
    (hg : ∀ p ∈ g, ResponseNeg (fieldOps top) resp p.1 p.2 ∧ 0 < p.2) (best : List F) :
    lsLoop (fieldOps top) b signal resp g 0 best = .ok best := by
  induction g with
  | nil => rfl
  | cons p rest ih =>
    obtain ⟨⟨hr, hla⟩, hrest⟩ := List.forall_mem_cons.mp hg
    have hlt : (fieldOps top).lt (sumSq (fieldOps top)
        (loopResult (fieldOps top) b signal resp p.1 p.2).1) 0 = false := by
      simpa only [fieldOps_lt, decide_eq_false_iff_not, not_lt] using sumSq_nonneg top _
    simp only [lsLoop, nnGreedy_eq_ok _ b signal resp p.1 p.2 hla hr,
      hlt, Bool.false_eq_true, if_false]
    exact ih hrest

theorem stepVal_pulse (top a : F) (rs : List F) (hne : rs ≠ []) (hneg : ∀ r ∈ rs, r < 0) :
    stepVal (fieldOps top) (rs.map (a * ·)) rs = a := by
  have hdiv : List.zipWith (fieldOps top).div (rs.map (a * ·)) rs = List.replicate rs.length a := by
    rw [List.zipWith_map_left, List.zipWith_self, ← List.map_const']
    exact List.map_congr_left fun r hr => by have := hneg r hr; simp only [fieldOps_div]; grind
  cases rs with
  | nil => exact absurd rfl hne
  | cons r rs =>
    rw [stepVal, hdiv]
    show (List.replicate rs.length a).foldl (fieldOps top).min a = a
    generalize rs.length = m
    induction m with
    | zero => rfl
    | succ m ih => rwa [List.replicate_succ, List.foldl_cons, fieldOps_min, ite_self]

omit [LE F] [LT F] [LawfulOrderLT F] [IsLinearOrder F] [OrderedRing F] [DecidableLT F]
  [DecidableLE F] in
theorem window_pulse (n k la : Nat) (a : F) (resp : List F) (hk : k + la ≤ n)
    (hla : la ≤ resp.length) :
    window (pulse n k a resp) k 0 la = (resp.take la).map (a * ·) := by
  have hb : k + 0 + la ≤ (pulse n k a resp).length := by simpa using hk
  apply List.ext_getElem
  · rw [window_length hb]; simp; omega
  · intro j h1 h2
    rw [window_length hb] at h1
    rw [window_getElem hb h1, pulse_getElem n k a resp (k + 0 + j) (by omega)]
    have e2 : resp[j]? = some (resp[j]'(by omega)) := List.getElem?_eq_getElem (by omega)
    simp [e2]

omit [LawfulOrderLT F] [IsLinearOrder F] [OrderedRing F] in
theorem applyAt_pulse (top : F) (n k : Nat) (a : F) (resp : List F) (hk : k ≤ n) :
    applyAt (fieldOps top) (pulse n k a resp) resp k a = List.replicate n (0 : F) := by
  apply List.ext_getElem?
  intro j
  rw [applyAt_getElem? _ _ _ _ _ _ (by simpa using hk), pulse_getElem?, List.getElem?_replicate]
  by_cases hj : j < n
  · simp only [hj, if_true]
    by_cases hjk : j < k
    · simp only [hjk, if_true, show ¬ k ≤ j by omega, if_false]
    · simp only [hjk, if_false, show k ≤ j by omega, if_true, Option.map_some]
      cases resp[j - k]? with
      | none => rfl
      | some r =>
        simp only [fieldOps_sub, fieldOps_mul]
        congr 1; grind
  · simp only [hj, if_false]
    split <;> rfl

theorem nnGreedy_pulse (top : F) (b : Bool) (n k la : Nat) (a : F) (resp : List F) (ha : 0 < a)
    (hr : ResponseNeg (fieldOps top) resp 0 la) (hla : 0 < la) (hk : k + la ≤ n) :
    nnGreedy (fieldOps top) b (pulse n k a resp) resp 0 la
      = .ok (List.replicate n 0, 0, (List.range n).map fun j => if j = k then a else 0) := by
  have hrw : respWindow resp 0 la = resp.take la := by simp [respWindow]
  have hlen : la ≤ resp.length := by have := hr.1; omega
  have hneg : ∀ r ∈ resp.take la, r < 0 := fun r h => by simpa using hr.2 r (hrw ▸ h)
  have hne : resp.take la ≠ [] := fun h => by
    have := congrArg List.length h; rw [List.length_take, List.length_nil] at this; omega
  have hnone : (window (pulse n k a resp) k 0 la).any (fieldOps top).nonneg = false := by
    rw [window_pulse n k la a resp hk hlen, List.any_eq_false]
    intro x hx
    obtain ⟨r, hr, rfl⟩ := List.mem_map.mp hx
    have := OrderedRing.mul_neg_of_pos_of_neg ha (hneg r hr)
    simpa only [fieldOps_nonneg, decide_eq_true_eq, not_le]
  have hloop :=
    calc naive (fieldOps top) resp 0 la 0 (pulse n k a resp) (List.replicate n 0)
      -- the samples before `k` are zero: nothing happens up to `k`
      _ = naive (fieldOps top) resp 0 la k (pulse n k a resp) (List.replicate n 0) := by
        rw [naive_skip_to _ resp 0 la _ _ k 0 fun j _ hj hb =>
          any_window_of_nonneg _ _ j 0 la j (by simp; omega)
            (by rw [pulse_getElem n k a resp j (by omega), if_neg (by omega)]; simp)
            (by omega) (by omega), Nat.zero_add]
      -- the step at `k` takes `a` and leaves the zero residual
      _ = naive (fieldOps top) resp 0 la (k + 1) (List.replicate n 0)
            ((List.range n).map fun j => if j = k then a else 0) := by
        rw [naive_of_not_any _ (by simpa using hk) hnone, window_pulse n k la a resp hk hlen, hrw,
          stepVal_pulse top a _ hne hneg, applyAt_pulse top n k a resp (by omega),
          set_zeros_eq_spike]
      -- and nothing happens on a zero residual
      _ = (List.replicate n 0, (List.range n).map fun j => if j = k then a else 0) := by
        rw [naive_skip_to _ resp 0 la _ _ n (k + 1) fun j _ _ hb =>
          any_window_of_nonneg _ _ j 0 la j (by simp at hb ⊢; omega) (by simp) (by omega)
            (by omega), naive_oob _ (by simp; omega)]
  rw [nnGreedy_eq_ok _ b _ resp 0 la hla hr, loopResult_eq_naive,
    pulse_length, fieldOps_zero, hloop, sumSq_zeros]

/-- **The isolated pulse under any sweep that starts at offset `0`**: its first grid point
`(0, laLo)` reaches residual `0`, and only a strictly smaller residual would replace it. -/
theorem isolated_pulse_ls (top : F) (htop : 0 < top) (b : Bool) (n k : Nat) (a : F)
    (resp : List F) (ha : 0 < a) (offHi laLo laHi : Nat) (hla : 0 < laLo) (hlaHi : laLo ≤ laHi)
    (hresp : ∀ off la, off ≤ offHi → laLo ≤ la → la ≤ laHi →
      ResponseNeg (fieldOps top) resp off la) (hk : k + laLo ≤ n) :
    lsDeconvWith (fieldOps top) b (pulse n k a resp) resp 0 offHi laLo laHi
      = .ok ((List.range n).map fun j => if j = k then a else 0) := by
  obtain ⟨rest, hg⟩ := grid_cons 0 offHi laLo laHi (Nat.zero_le _) hlaHi
  simp only [lsDeconvWith, hg, lsLoop, fieldOps_inf, fieldOps_lt, htop, decide_true, if_true,
    nnGreedy_pulse top b n k laLo a resp ha (hresp 0 laLo (Nat.zero_le _) (Nat.le_refl _) hlaHi)
      hla hk]
  refine lsLoop_keep top b _ resp rest (fun p hp => ?_) _
  have ⟨⟨_, h2⟩, h3, h4⟩ := (mem_grid 0 offHi laLo laHi p.1 p.2).mp (hg ▸ List.mem_cons_of_mem _ hp)
  exact ⟨hresp p.1 p.2 h2 h3 h4, by omega⟩

/-- **isolated_pulse**: the wire deconvolution of a single avalanche of amplitude `a > 0` at
sample `k` (at least 3 samples before the end of the waveform) is exactly one spike `a` at
index `k`. -/
theorem isolated_pulse (top : F) (htop : 0 < top) (n k : Nat) (a : F) (resp : List F)
    (ha : 0 < a) (h13 : 13 ≤ resp.length) (hneg : ∀ r ∈ resp.take 13, r < 0)
    (hk : k + 3 ≤ n) :
    wireDeconv (fieldOps top) resp (pulse n k a resp)
      = .ok ((List.range n).map fun j => if j = k then a else 0) :=
  isolated_pulse_ls top htop true n k a resp ha 1 3 12 (by omega) (by omega)
    (fun off la _ _ _ => responseNeg_of_take _ resp 13 h13 (fun r hr => by simpa using hneg r hr)
      off la (by omega)) hk

/-- The hypotheses of `deconv_scale_field_first` hold for an isolated pulse, so scaling the pulse
by `c > 0` scales the recovered spike by `c` — in agreement with `isolated_pulse` at amplitude
`c · a`. -/
theorem isolated_pulse_scale (top : F) (htop : 0 < top) (n k : Nat) (a c : F) (resp : List F)
    (ha : 0 < a) (hc : 0 < c) (h13 : 13 ≤ resp.length) (hneg : ∀ r ∈ resp.take 13, r < 0)
    (hk : k + 3 ≤ n) :
    wireDeconv (fieldOps top) resp ((pulse n k a resp).map (c * ·))
      = .ok (((List.range n).map fun j => if j = k then a else 0).map (c * ·)) := by
  have first : ∀ a', 0 < a' → ∀ p, (grid 0 1 3 12).head? = some p → ∀ res r inp,
      nnGreedy (fieldOps top) true (pulse n k a' resp) resp p.1 p.2 = .ok (res, r, inp) →
        r < top := by
    intro a' ha' p hp res r inp hnn
    obtain ⟨rest, hg⟩ := grid_cons 0 1 3 12 (by omega) (by omega)
    rw [hg] at hp; cases hp
    rw [nnGreedy_pulse top true n k 3 a' resp ha' (responseNeg_of_take _ resp 13 h13
      (fun r hr => by simpa using hneg r hr) 0 3 (by omega)) (by omega) hk] at hnn
    cases hnn; exact htop
  have key := deconv_scale_field_first top c hc true (pulse n k a resp) resp 0 1 3 12 (first a ha)
    (by rw [pulse_scale]; exact first (c * a) (OrderedRing.mul_pos hc ha))
  have hw := isolated_pulse top htop n k a resp ha h13 hneg hk
  simp only [wireDeconv, lsDeconv] at hw ⊢
  rw [key, hw]
  rfl

end field

/-- Non-vacuity: a concrete response over `Rat` with 13 negative leading samples (and a positive
tail), `n = 20`, `k = 4`, amplitude `3`, `top = 10^6`. -/
example :
    wireDeconv (fieldOps (1000000 : Rat))
        [-1, -8, -20, -30, -31, -27, -21, -15, -10, -7, -5, -3, -2, 1, 2, 1]
        (pulse 20 4 (3 : Rat)
          [-1, -8, -20, -30, -31, -27, -21, -15, -10, -7, -5, -3, -2, 1, 2, 1])
      = .ok ((List.range 20).map fun j => if j = 4 then (3 : Rat) else 0) :=
  isolated_pulse 1000000 (by decide) 20 4 3 _ (by decide) (by decide) (by decide) (by decide)

/-- Concrete instance over `Rat` (`c = 2`, the same response). -/
example :
    wireDeconv (fieldOps (1000000 : Rat))
        [-1, -8, -20, -30, -31, -27, -21, -15, -10, -7, -5, -3, -2, 1, 2, 1]
        ((pulse 20 4 (3 : Rat)
          [-1, -8, -20, -30, -31, -27, -21, -15, -10, -7, -5, -3, -2, 1, 2, 1]).map (2 * ·))
      = .ok (((List.range 20).map fun j => if j = 4 then (3 : Rat) else 0).map (2 * ·)) :=
  isolated_pulse_scale 1000000 (by decide) 20 4 3 2 _ (by decide) (by decide) (by decide)
    (by decide) (by decide)

end AlphaG.Deconv
