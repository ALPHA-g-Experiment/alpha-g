import AlphaG.Generated.DriftTables
import AlphaG.Lemmas.DriftFast
/-
The kernel obligations on the generated drift table (`Generated/DriftTables*.lean`: the f64 bit
patterns held by the built code), evaluated over the whole table with the fast checks of
`Lemmas/DriftFast.lean` and transported to `checkSlice` / `checkStep`. A table in /repo that is
no longer well formed, or has a step exception outside the committed list, fails this module.
-/
namespace AlphaG.Drift
open AlphaG.Generated

theorem driftBits_fastSlices : driftBits.all (fun s => fastSlice s.1) = true := by decide +kernel

theorem driftBits_fastSteps :
    driftBits.zipIdx.all (fun s => fastStep s.1.1 0 (exceptionsOf driftStepExceptions s.2)) = true := by
  decide +kernel

/-- every slice passes the integer well-formedness check -/
theorem driftBits_slices_ok : ∀ s ∈ driftBits, checkSlice s.1 = true := fun s hs =>
  checkSlice_of_fast (List.all_eq_true.1 driftBits_fastSlices s hs)

/-- the z upper bounds are finite, positive and strictly ascending -/
theorem driftBits_z_ok : checkZ (driftBits.map (·.2)) = true := by decide +kernel

/-- every knot interval outside `driftStepExceptions` has slope times 8 ns below 0.5 mm -/
theorem driftBits_step_ok (i : Nat) (h : i < driftBits.length) :
    checkStep (driftBits[i]).1 0 (exceptionsOf driftStepExceptions i) = true := by
  have hm : (driftBits[i], i) ∈ driftBits.zipIdx := by
    rw [List.mk_mem_zipIdx_iff_getElem?]; exact List.getElem?_eq_getElem h
  exact checkStep_of_fast _ _ _
    (posKnot_of_fastSlice (List.all_eq_true.1 driftBits_fastSlices _ (List.getElem_mem h)))
    (List.all_eq_true.1 driftBits_fastSteps _ hm)

/-- no exception outside the committed list (a new interval over 0.5 mm breaks this) -/
theorem driftStepExceptions_known :
    driftStepExceptions.all (fun e => driftStepKnown.contains e) = true := by decide +kernel

end AlphaG.Drift
