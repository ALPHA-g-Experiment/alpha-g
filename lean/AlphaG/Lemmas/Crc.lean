import AlphaG.Model.Crc
/-
Algebra of the CRC-32C register: linearity over GF(2) (`run_xor`), injectivity of every step
(`run_inj`, `run_zero_inj`), the burst lemma (`burst32`), the parity invariant (`parity_run`:
(x+1) divides the generator), and the residue form (`run_self`: feeding the register its own 32
bits, least significant first, drives it to 0). Core Lean only; no `decide` on anything large.
-/
namespace AlphaG.Crc

theorem ite_bne {w : Nat} (c₁ c₂ : Bool) (p : BitVec w) :
    (if (c₁ != c₂) then p else 0#w) = (if c₁ then p else 0#w) ^^^ (if c₂ then p else 0#w) := by
  cases c₁ <;> cases c₂ <;> simp

theorem step_eq (s : BitVec 32) (b : Bool) :
    step s b = step s false ^^^ (if b then POLY else 0#32) := by
  unfold step
  rw [BitVec.xor_assoc, ← ite_bne, Bool.bne_false]

/-- One step is linear over GF(2) (jointly in the register and the message bit). -/
theorem step_xor (s₁ s₂ : BitVec 32) (b₁ b₂ : Bool) :
    step (s₁ ^^^ s₂) (b₁ != b₂) = step s₁ b₁ ^^^ step s₂ b₂ := by
  rw [step_eq, step_eq s₁, step_eq s₂, ite_bne]
  unfold step
  simp only [Bool.bne_false]
  rw [BitVec.ushiftRight_xor_distrib, BitVec.getLsbD_xor,
    show (s₁.getLsbD 0 ^^ s₂.getLsbD 0) = (s₁.getLsbD 0 != s₂.getLsbD 0) from rfl, ite_bne]
  ac_rfl

/-- Linearity of the register over messages of equal length. -/
theorem run_xor : ∀ (m₁ m₂ : List Bool) (s₁ s₂ : BitVec 32), m₁.length = m₂.length →
    run (s₁ ^^^ s₂) (List.zipWith (· != ·) m₁ m₂) = run s₁ m₁ ^^^ run s₂ m₂
  | [], [], _, _, _ => by simp [run]
  | b₁ :: m₁, b₂ :: m₂, s₁, s₂, h => by
    simp only [List.zipWith_cons_cons, run, step_xor]
    exact run_xor m₁ m₂ _ _ (by simpa using h)
  | [], _ :: _, _, _, h => by simp at h
  | _ :: _, [], _, _, h => by simp at h

theorem run_append (s : BitVec 32) (a b : List Bool) : run s (a ++ b) = run (run s a) b := by
  induction a generalizing s with
  | nil => rfl
  | cons x a ih => simp only [List.cons_append, run, ih]

/-- A zero bit cannot clear a non-zero register (bit 31 of the polynomial is set). -/
theorem step_zero_inj (s : BitVec 32) (h : step s false = 0#32) : s = 0#32 := by
  unfold step at h
  cases hb : s.getLsbD 0
  · rw [hb] at h
    simp only [bne_self_eq_false, Bool.false_eq_true, if_false, BitVec.xor_zero] at h
    ext i hi
    by_cases hi0 : i = 0
    · subst hi0; simpa using hb
    · have := congrArg (fun v => v.getLsbD (i - 1)) h
      simp only [BitVec.getLsbD_ushiftRight, BitVec.getLsbD_zero] at this
      have h2 : 1 + (i - 1) = i := by omega
      rw [h2] at this
      rw [← BitVec.getLsbD_eq_getElem]; simpa using this
  · rw [hb] at h
    have := congrArg (fun v => v.getLsbD 31) h
    simp [POLY] at this

theorem step_zero_zero : step 0#32 false = 0#32 := by decide

theorem run_zeros_zero (n : Nat) : run 0#32 (List.replicate n false) = 0#32 := by
  induction n with
  | zero => rfl
  | succ n ih => simp only [List.replicate_succ, run, step_zero_zero, ih]

theorem step_inj (s s' : BitVec 32) (b : Bool) (h : step s b = step s' b) : s = s' := by
  have h1 := step_xor s s' b b
  rw [h, BitVec.xor_self] at h1
  simp only [bne_self_eq_false] at h1
  have := step_zero_inj _ h1
  have h2 : s ^^^ s' ^^^ s' = 0#32 ^^^ s' := by rw [this]
  rw [BitVec.xor_assoc, BitVec.xor_self, BitVec.xor_zero, BitVec.zero_xor] at h2
  exact h2

theorem run_inj : ∀ (m : List Bool) (s s' : BitVec 32), run s m = run s' m → s = s'
  | [], _, _, h => h
  | b :: m, s, s', h => step_inj s s' b (run_inj m _ _ h)

theorem run_zero_inj : ∀ (n : Nat) (s : BitVec 32), run s (List.replicate n false) = 0#32 → s = 0#32 :=
  fun n s h => run_inj _ s 0#32 (h.trans (run_zeros_zero n).symm)

/-- 32-bit register whose bit `i` is element `i` of the list (elements from index 32 on are shifted
out: the lemmas below ask for `bs.length ≤ 32`). -/
def ofBitsLE : List Bool → BitVec 32
  | [] => 0#32
  | b :: bs => (ofBitsLE bs <<< 1) ||| (if b then 1#32 else 0#32)

theorem getLsbD_ofBitsLE : ∀ (bs : List Bool) (i : Nat),
    (ofBitsLE bs).getLsbD i = (decide (i < 32) && bs[i]?.getD false)
  | [], i => by simp [ofBitsLE]
  | b :: bs, 0 => by cases b <;> simp [ofBitsLE]
  | b :: bs, i + 1 => by
    rw [ofBitsLE, BitVec.getLsbD_or, BitVec.getLsbD_shiftLeft, getLsbD_ofBitsLE bs,
      List.getElem?_cons_succ]
    by_cases h : i + 1 < 32
    · cases b <;> simp [h, show i < 32 by omega]
    · cases b <;> simp [h]

theorem step_ofBitsLE (b : Bool) (bs : List Bool) (h : bs.length ≤ 31) :
    step (ofBitsLE (b :: bs)) b = ofBitsLE bs := by
  have hlsb : (ofBitsLE (b :: bs)).getLsbD 0 = b := by rw [getLsbD_ofBitsLE]; rfl
  rw [step, hlsb, bne_self_eq_false, if_neg Bool.false_ne_true, BitVec.xor_zero]
  ext i hi
  rw [← BitVec.getLsbD_eq_getElem, ← BitVec.getLsbD_eq_getElem, BitVec.getLsbD_ushiftRight,
    getLsbD_ofBitsLE, getLsbD_ofBitsLE, Nat.add_comm, List.getElem?_cons_succ]
  by_cases h31 : i = 31
  · subst h31; rw [List.getElem?_eq_none h]; rfl
  · rw [decide_eq_true hi, decide_eq_true (show i + 1 < 32 by omega)]

theorem run_ofBitsLE : ∀ (bs : List Bool), bs.length ≤ 32 → run (ofBitsLE bs) bs = 0#32
  | [], _ => by simp [run, ofBitsLE]
  | b :: bs, h => by
    simp only [List.length_cons] at h
    rw [run, step_ofBitsLE b bs (by omega)]
    exact run_ofBitsLE bs (by omega)

/-- A block of at most 32 bits that drives the register from 0 back to 0 packs to the zero word
(so all its bits are zero: `ofBitsLE_zero_all`). -/
theorem burst32 (bs : List Bool) (h : bs.length ≤ 32) (h0 : run 0#32 bs = 0#32) :
    ofBitsLE bs = 0#32 :=
  (run_inj bs _ _ (h0.trans (run_ofBitsLE bs h).symm)).symm

theorem ofBitsLE_zero_all (bs : List Bool) (h : bs.length ≤ 32) (h0 : ofBitsLE bs = 0#32) :
    ∀ x ∈ bs, x = false := by
  intro x hx
  obtain ⟨i, hi, rfl⟩ := List.mem_iff_getElem.1 hx
  have := getLsbD_ofBitsLE bs i
  rw [h0, BitVec.getLsbD_zero, decide_eq_true (by omega : i < 32), Bool.true_and,
    List.getElem?_eq_getElem hi] at this
  exact this.symm

theorem run_zero_burst (a c : Nat) (bs : List Bool) (h : bs.length ≤ 32)
    (h0 : run 0#32 (List.replicate a false ++ bs ++ List.replicate c false) = 0#32) :
    ∀ x ∈ bs, x = false := by
  rw [run_append, run_append, run_zeros_zero] at h0
  exact ofBitsLE_zero_all bs h (burst32 bs h (run_zero_inj c _ h0))

/-! ### Parity: the generator has odd weight (17 of the 32 low coefficients), i.e. `x + 1`
divides it, so the parity of the register tracks the parity of the message. -/

/-- xor of the `n` low bits. -/
def parityN : Nat → BitVec 32 → Bool
  | 0, _ => false
  | n + 1, s => (parityN n s != s.getLsbD n)

def parity (s : BitVec 32) : Bool := parityN 32 s

/-- Parity (xor of all bits) of a bit string. -/
def par : List Bool → Bool
  | [] => false
  | b :: m => (b != par m)

theorem parityN_xor (n : Nat) (a b : BitVec 32) :
    parityN n (a ^^^ b) = (parityN n a != parityN n b) := by
  induction n with
  | zero => rfl
  | succ n ih =>
    simp only [parityN, ih, BitVec.getLsbD_xor]
    cases parityN n a <;> cases parityN n b <;> cases a.getLsbD n <;> cases b.getLsbD n <;> rfl

theorem parityN_shift (n : Nat) (s : BitVec 32) :
    parityN n (s >>> 1) = (parityN (n + 1) s != s.getLsbD 0) := by
  induction n with
  | zero => simp [parityN]
  | succ n ih =>
    rw [parityN, ih]
    simp only [parityN, BitVec.getLsbD_ushiftRight, Nat.add_comm 1 n]
    cases parityN n s <;> cases s.getLsbD n <;> cases s.getLsbD 0 <;> cases s.getLsbD (n + 1) <;> rfl

theorem parity_zero : parity 0#32 = false := by decide
theorem parity_POLY : parity POLY = true := by decide

theorem parity_step (s : BitVec 32) (b : Bool) : parity (step s b) = (parity s != b) := by
  unfold step parity
  rw [parityN_xor, parityN_shift]
  have h32 : s.getLsbD 32 = false := by simp
  have hp : parityN 33 s = parityN 32 s := by rw [parityN, h32]; simp
  rw [hp]
  have hP := parity_POLY; have hZ := parity_zero
  unfold parity at hP hZ
  cases s.getLsbD 0 <;> cases b <;> simp [hP, hZ]

theorem parity_run (m : List Bool) (s : BitVec 32) : parity (run s m) = (parity s != par m) := by
  induction m generalizing s with
  | nil => simp [run, par]
  | cons b m ih =>
    simp only [run, ih, parity_step, par]
    cases parity s <;> cases b <;> cases par m <;> rfl

theorem par_append (a b : List Bool) : par (a ++ b) = (par a != par b) := by
  induction a with
  | nil => simp [par]
  | cons x a ih => simp only [List.cons_append, par, ih]; cases x <;> cases par a <;> cases par b <;> rfl

theorem par_eq_count (m : List Bool) : par m = decide (m.count true % 2 = 1) := by
  induction m with
  | nil => rfl
  | cons b m ih =>
    rw [par, ih]
    cases b
    · simp
    · simp only [List.count_cons_self]
      by_cases h : m.count true % 2 = 1
      · have : ¬ (m.count true + 1) % 2 = 1 := by omega
        simp [h, this]
      · have : (m.count true + 1) % 2 = 1 := by omega
        simp [h, this]

/-- `k` low bits of `n`, least significant first. -/
def bitsLE : Nat → Nat → List Bool
  | _, 0 => []
  | n, k + 1 => n.testBit 0 :: bitsLE (n / 2) k

/-- Feeding the register its own bits (the stored `!crc32c` word, little endian) clears it. -/
theorem run_self : ∀ (k : Nat) (s : BitVec 32), s.toNat < 2 ^ k → run s (bitsLE s.toNat k) = 0#32
  | 0, s, h => by
    have : s.toNat = 0 := by simpa using h
    simp only [bitsLE, run]
    exact BitVec.eq_of_toNat_eq (by simpa using this)
  | k + 1, s, h => by
    have hs : step s (s.toNat.testBit 0) = s >>> 1 := by
      unfold step
      have : s.getLsbD 0 = s.toNat.testBit 0 := rfl
      rw [this]; simp
    have hn : (s >>> 1).toNat = s.toNat / 2 := by
      rw [BitVec.toNat_ushiftRight, Nat.shiftRight_eq_div_pow]
    rw [bitsLE, run, hs, ← hn]
    apply run_self k
    rw [hn, Nat.pow_succ] at *; omega

theorem bitsLE_append (n m j : Nat) : bitsLE n (m + j) = bitsLE n m ++ bitsLE (n / 2 ^ m) j := by
  induction m generalizing n with
  | zero => simp [bitsLE]
  | succ m ih =>
    rw [show m + 1 + j = (m + j) + 1 by omega, bitsLE, bitsLE, ih, List.cons_append]
    congr 2
    rw [Nat.div_div_eq_div_mul, Nat.pow_succ, Nat.mul_comm]

theorem bitsOf_append (a b : List UInt8) : bitsOf (a ++ b) = bitsOf a ++ bitsOf b := by
  induction a with
  | nil => rfl
  | cons x a ih => simp only [List.cons_append, bitsOf, ih, List.append_assoc]

theorem length_bitsOf (m : List UInt8) : (bitsOf m).length = 8 * m.length := by
  induction m with
  | nil => rfl
  | cons x m ih => simp only [bitsOf, byteBits, List.length_append, List.length_cons, ih,
      List.length_nil]; omega

theorem byteBits_ofNat (n : Nat) : byteBits (UInt8.ofNat (n % 256)) = bitsLE n 8 := by
  have h : (UInt8.ofNat (n % 256)).toNat = n % 2 ^ 8 := by
    simp [UInt8.toNat_ofNat']
  simp only [byteBits, bit, h, bitsLE, Nat.testBit_mod_two_pow, Nat.div_div_eq_div_mul]
  simp [Nat.testBit, Nat.shiftRight_eq_div_pow]

theorem bitsOf_leBytes (n k : Nat) : bitsOf (leBytes n k) = bitsLE n (8 * k) := by
  induction k generalizing n with
  | zero => rfl
  | succ k ih =>
    rw [leBytes, bitsOf, ih, byteBits_ofNat, show 8 * (k + 1) = 8 + 8 * k by omega, bitsLE_append]

theorem run_stored (s : BitVec 32) (data : List UInt8) :
    run s (bitsOf (data ++ leBytes (run s (bitsOf data)).toNat 4)) = 0#32 := by
  rw [bitsOf_append, run_append, bitsOf_leBytes]
  exact run_self 32 _ (BitVec.isLt _)

end AlphaG.Crc
