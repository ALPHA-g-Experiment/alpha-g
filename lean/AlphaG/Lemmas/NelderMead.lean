import AlphaG.Model.NelderMead
import AlphaG.Lemmas.OkOr
/-
Lemmas about the Nelder–Mead model (Model/NelderMead.lean) used by Props/C14c. Core Lean only.
* `Outcome.bind` inversion, and the argmin-math vector operations on vectors of the right dimension.
* The insertion sort `sortSimplex`: it permutes its input and, when `<` is a strict weak order on the
  costs that occur, its first element is the *first* minimum of the input (`firstMin`).
* The invariant of one iteration (`nextIter`), for a simplex of `n + 1` vertices of dimension `n ≥ 1`
  and a cost function that, on vectors of dimension `n`, either returns a non-NaN value or panics at
  its own site `cs`: every vertex has dimension `n` and carries its cost (`Simplex`); `next_iter`
  keeps it and the first vertex, or a cost evaluation panicked (`nextIter_cases`).
-/
namespace AlphaG.NelderMead
open AlphaG
open AlphaG.Outcome (OkOr)

section Bind
variable {ε β γ : Type}

theorem bind_eq_ok {x : Outcome ε β} {f : β → Outcome ε γ} {b : γ} :
    x.bind f = .ok b ↔ ∃ a, x = .ok a ∧ f a = .ok b := by
  cases x <;> simp [Outcome.bind]

theorem bind_eq_panic {x : Outcome ε β} {f : β → Outcome ε γ} {s : String} :
    x.bind f = .panic s ↔ x = .panic s ∨ ∃ a, x = .ok a ∧ f a = .panic s := by
  cases x <;> simp [Outcome.bind]

theorem bind_eq_err {x : Outcome ε β} {f : β → Outcome ε γ} {e : ε} :
    x.bind f = .err e ↔ x = .err e ∨ ∃ a, x = .ok a ∧ f a = .err e := by
  cases x <;> simp [Outcome.bind]

@[simp] theorem bind_ok' (a : β) (f : β → Outcome ε γ) : (Outcome.ok a : Outcome ε β).bind f = f a := rfl
@[simp] theorem bind_panic' (s : String) (f : β → Outcome ε γ) :
    (Outcome.panic s : Outcome ε β).bind f = .panic s := rfl
@[simp] theorem bind_err' (e : ε) (f : β → Outcome ε γ) :
    (Outcome.err e : Outcome ε β).bind f = .err e := rfl

end Bind

section VectorsAndSort
variable {α ε : Type} (o : NOps α)

theorem insRev_perm (x : Vertex α) (l : List (Vertex α)) : (insRev o x l).Perm (x :: l) := by
  induction l with
  | nil => exact List.Perm.refl _
  | cons y ys ih =>
    unfold insRev
    split
    · exact ((List.Perm.cons y ih).trans (List.Perm.swap x y ys))
    · exact List.Perm.refl _

theorem foldl_ins_perm {β : Type} {ins : β → List β → List β} (h : ∀ x l, (ins x l).Perm (x :: l))
    (l acc : List β) : (l.foldl (fun acc x => ins x acc) acc).Perm (acc ++ l) := by
  induction l generalizing acc with
  | nil => simp
  | cons x l ih => exact (ih _).trans (((h x acc).append_right l).trans List.perm_middle.symm)

/-- `sort_param_vecs` permutes the simplex (whatever `<` does, NaN included). -/
theorem sortSimplex_perm (s : List (Vertex α)) : (sortSimplex o s).Perm s :=
  (List.reverse_perm _).trans (foldl_ins_perm (insRev_perm o) s [])

theorem sortSimplex_length (s : List (Vertex α)) : (sortSimplex o s).length = s.length :=
  (sortSimplex_perm o s).length_eq

theorem mem_sortSimplex (s : List (Vertex α)) (v : Vertex α) : v ∈ sortSimplex o s ↔ v ∈ s :=
  (sortSimplex_perm o s).mem_iff

/-- The order laws the solver relies on, for the values satisfying `Num` ("not NaN"). They hold for
IEEE `f64` with `Num x := ¬ x.is_nan()`; `C14c.xLaws` proves them for the rationals extended by `±inf` and a NaN. -/
structure OrdLaws (Num : α → Prop) : Prop where
  lt_irrefl : ∀ a, Num a → o.lt a a = false
  lt_trans : ∀ a b c, Num a → Num b → Num c → o.lt a b = true → o.lt b c = true → o.lt a c = true
  /-- incomparability is transitive (`<` is a strict weak order) -/
  lt_negtrans : ∀ a b c, Num a → Num b → Num c → o.lt a b = false → o.lt b c = false → o.lt a c = false
  le_iff : ∀ a b, Num a → Num b → (o.le a b = true ↔ o.lt b a = false)
  inf_num : Num o.inf
  /-- every non-NaN value is `< +inf` or is `+inf` itself -/
  accept_inf : ∀ c, Num c → o.lt c o.inf = true ∨
    (o.isInf c = true ∧ o.isInf o.inf = true ∧ o.signPos c = o.signPos o.inf)
  /-- two infinities of the same sign are not ordered -/
  same_inf : ∀ a b, Num a → Num b → o.isInf a = true → o.isInf b = true → o.signPos a = o.signPos b →
    o.lt a b = false ∧ o.lt b a = false

variable {o}

theorem OrdLaws.lt_asymm {Num : α → Prop} (L : OrdLaws o Num) (a b : α) (ha : Num a) (hb : Num b)
    (h : o.lt a b = true) : o.lt b a = false := by
  cases hba : o.lt b a with
  | false => rfl
  | true =>
    have := L.lt_trans a b a ha hb ha h hba
    rw [L.lt_irrefl a ha] at this
    cases this

/-- If `a < c` then every `b` is above `a` or below `c` (negative transitivity, read backwards). -/
theorem OrdLaws.lt_cotrans {Num : α → Prop} (L : OrdLaws o Num) (a b c : α) (ha : Num a) (hb : Num b)
    (hc : Num c) (h : o.lt a c = true) (hbc : o.lt b c = false) : o.lt a b = true := by
  cases hab : o.lt a b with
  | true => rfl
  | false => rw [L.lt_negtrans a b c ha hb hc hab hbc] at h; cases h

variable {n : Nat} {Q : String → Prop}

theorem vscale_length (a : List α) (s : α) : (vscale o a s).length = a.length := by
  simp [vscale]

theorem vadd_ok (hn : 0 < n) {a b : List α} (ha : a.length = n) (hb : b.length = n) :
    OkOr Q (vadd o a b : Outcome ε (List α)) (·.length = n) := by
  unfold vadd
  rw [if_neg (by omega)]
  exact .ok (by simp [ha, hb])

theorem vsub_ok (hn : 0 < n) {a b : List α} (ha : a.length = n) (hb : b.length = n) :
    OkOr Q (vsub o a b : Outcome ε (List α)) (·.length = n) := by
  unfold vsub
  rw [if_neg (by omega)]
  exact .ok (by simp [ha, hb])

/-- `Q` is arbitrary: on vectors of one dimension `n ≥ 1` none of the argmin-math asserts fires. -/
theorem affine_ok (hn : 0 < n) {x0 a b : List α} (k : α) (h0 : x0.length = n) (ha : a.length = n)
    (hb : b.length = n) : OkOr Q (affine o x0 a b k : Outcome ε (List α)) (·.length = n) :=
  (vsub_ok hn ha hb).bind fun _ hd => vadd_ok hn h0 ((vscale_length _ k).trans hd)

theorem foldAdd_ok (hn : 0 < n) (ps : List (List α)) {acc : List α} (hacc : acc.length = n)
    (hps : ∀ p ∈ ps, p.length = n) : OkOr Q (foldAdd o acc ps : Outcome ε (List α)) (·.length = n) := by
  induction ps generalizing acc with
  | nil => exact .ok hacc
  | cons p ps ih =>
    exact (vadd_ok hn hacc (hps p (by simp))).bind fun _ ha => ih ha fun q hq => hps q (by simp [hq])

variable (o) in
/-- The first minimum of `v0 :: rest` (a later element replaces the current one only when it is
strictly smaller). The same fold as `C14b.firstMin` (`Lemmas/TrackInit.lean`), but `<` obeys its laws
on the non-NaN costs only, so `firstMin_spec` has an induction of its own instead of going through
`C14b.foldl_best_spec`, whose hypotheses are unconditional. -/
def firstMin (v0 : Vertex α) (rest : List (Vertex α)) : Vertex α :=
  rest.foldl (fun m x => if o.lt x.2 m.2 then x else m) v0

theorem firstMin_cons (v0 x : Vertex α) (xs : List (Vertex α)) :
    firstMin o v0 (x :: xs) = firstMin o (if o.lt x.2 v0.2 then x else v0) xs := rfl

theorem firstMin_spec {Num : α → Prop} (L : OrdLaws o Num) (v0 : Vertex α) (rest : List (Vertex α))
    (hnum : ∀ v ∈ v0 :: rest, Num v.2) :
    firstMin o v0 rest ∈ v0 :: rest ∧
    (firstMin o v0 rest = v0 ∨ o.lt (firstMin o v0 rest).2 v0.2 = true) ∧
    ∀ v ∈ v0 :: rest, o.lt v.2 (firstMin o v0 rest).2 = false := by
  induction rest generalizing v0 with
  | nil =>
    exact ⟨List.mem_singleton.2 rfl, .inl rfl, fun v hv => by
      rw [List.mem_singleton.1 hv]; exact L.lt_irrefl _ (hnum v0 List.mem_cons_self)⟩
  | cons x xs ih =>
    have h0 := hnum v0 List.mem_cons_self
    have hx := hnum x (List.mem_cons_of_mem _ List.mem_cons_self)
    rw [firstMin_cons]
    split
    next hlt =>
      obtain ⟨hm, hor, hle⟩ := ih x fun v hv => hnum v (List.mem_cons_of_mem _ hv)
      have hmn := hnum _ (List.mem_cons_of_mem _ hm)
      refine ⟨List.mem_cons_of_mem _ hm, .inr ?_, fun v hv => ?_⟩
      · rcases hor with h | h
        · rwa [h]
        · exact L.lt_trans _ _ _ hmn hx h0 h hlt
      · rcases List.mem_cons.1 hv with rfl | hv
        · exact L.lt_negtrans _ _ _ h0 hx hmn (L.lt_asymm _ _ hx h0 hlt) (hle x List.mem_cons_self)
        · exact hle v hv
    next hlt =>
      have hsub : ∀ v ∈ v0 :: xs, v ∈ v0 :: x :: xs := fun v hv =>
        (List.mem_cons.1 hv).elim (· ▸ List.mem_cons_self) fun h => List.mem_cons_of_mem _ (List.mem_cons_of_mem _ h)
      obtain ⟨hm, hor, hle⟩ := ih v0 fun v hv => hnum v (hsub v hv)
      refine ⟨hsub _ hm, hor, fun v hv => ?_⟩
      rcases List.mem_cons.1 hv with rfl | hv
      · exact hle v List.mem_cons_self
      rcases List.mem_cons.1 hv with rfl | hv
      · exact L.lt_negtrans _ _ _ hx h0 (hnum _ (hsub _ hm)) (Bool.eq_false_iff.2 hlt) (hle v0 List.mem_cons_self)
      · exact hle v (List.mem_cons_of_mem _ hv)

/-- Inserting `x` into a reversed prefix whose last element `m` is minimal in it: the new last element is
`x` if `x < m`, else still `m`. (No sortedness of the prefix is needed.) -/
theorem insRev_last {Num : α → Prop} (L : OrdLaws o Num) (x m : Vertex α) (l : List (Vertex α))
    (hx : Num x.2) (hl : ∀ v ∈ l, Num v.2) (hlast : l.getLast? = some m)
    (hmin : ∀ v ∈ l, o.lt v.2 m.2 = false) :
    (insRev o x l).getLast? = some (if o.lt x.2 m.2 then x else m) := by
  induction l with
  | nil => cases hlast
  | cons y ys ih =>
    have hy := hl y List.mem_cons_self
    have hm : Num m.2 := hl m (List.mem_of_getLast? hlast)
    unfold insRev
    by_cases hxy : o.lt x.2 y.2 = true
    · rw [if_pos hxy]
      cases ys with
      | nil =>
        obtain rfl : y = m := by simpa using hlast
        rw [if_pos hxy]; rfl
      | cons z zs =>
        rw [List.getLast?_cons_cons] at hlast
        have := ih (fun v hv => hl v (List.mem_cons_of_mem _ hv)) hlast fun v hv => hmin v (List.mem_cons_of_mem _ hv)
        rw [← this]
        cases h : insRev o x (z :: zs) with
        | nil => have := (insRev_perm o x (z :: zs)).length_eq; rw [h] at this; cases this
        | cons _ _ => rw [List.getLast?_cons_cons]
    · -- `x` stops at `y`; `y` is not below `m`, so `x` is not below `m` either
      have hxy' : o.lt x.2 y.2 = false := by simpa using hxy
      rw [if_neg hxy, List.getLast?_cons_cons, hlast,
        if_neg (by rw [L.lt_negtrans _ _ _ hx hy hm hxy' (hmin y List.mem_cons_self)]; exact Bool.false_ne_true)]

/-- The fold of `sort_param_vecs` keeps "the last element of the reversed prefix is its first minimum". -/
theorem foldl_insRev_last {Num : α → Prop} (L : OrdLaws o Num) (rest acc : List (Vertex α)) (m : Vertex α)
    (hrest : ∀ v ∈ rest, Num v.2) (hacc : ∀ v ∈ acc, Num v.2) (hlast : acc.getLast? = some m)
    (hmin : ∀ v ∈ acc, o.lt v.2 m.2 = false) :
    (rest.foldl (fun acc x => insRev o x acc) acc).getLast? = some (firstMin o m rest) := by
  induction rest generalizing acc m with
  | nil => exact hlast
  | cons x xs ih =>
    have hx := hrest x List.mem_cons_self
    have hm := hacc m (List.mem_of_getLast? hlast)
    have hmem : ∀ v ∈ insRev o x acc, v = x ∨ v ∈ acc := fun v hv =>
      List.mem_cons.1 ((insRev_perm o x acc).mem_iff.1 hv)
    refine ih (insRev o x acc) (if o.lt x.2 m.2 then x else m) (fun v hv => hrest v (List.mem_cons_of_mem _ hv))
      (fun v hv => (hmem v hv).elim (· ▸ hx) (hacc v)) (insRev_last L x m acc hx hacc hlast hmin) fun v hv => ?_
    rcases hmem v hv with rfl | hv <;> split
    · exact L.lt_irrefl _ hx
    · exact Bool.eq_false_iff.2 ‹_›
    · exact L.lt_asymm _ _ hx (hacc v hv) (L.lt_cotrans _ _ _ hx (hacc v hv) hm ‹_› (hmin v hv))
    · exact hmin v hv

/-- **Stability of `sort_param_vecs`**: when no cost is NaN the sorted simplex starts with the *first*
minimum of the unsorted one. -/
theorem sortSimplex_head {Num : α → Prop} (L : OrdLaws o Num) (v0 : Vertex α) (rest : List (Vertex α))
    (hnum : ∀ v ∈ v0 :: rest, Num v.2) :
    (sortSimplex o (v0 :: rest)).head? = some (firstMin o v0 rest) := by
  have h0 : ∀ v ∈ [v0], Num v.2 := fun v hv => hnum v (List.mem_singleton.1 hv ▸ List.mem_cons_self)
  unfold sortSimplex
  rw [List.head?_reverse]
  exact foldl_insRev_last L rest [v0] v0 (fun v hv => hnum v (List.mem_cons_of_mem _ hv)) h0 rfl
    fun v hv => List.mem_singleton.1 hv ▸ L.lt_irrefl _ (h0 v hv)

end VectorsAndSort

section Iteration
variable {α ε : Type} {o : NOps α}

/-- `n + 1` vertices of dimension `n`. -/
def Shape (n : Nat) (s : List (Vertex α)) : Prop := s.length = n + 1 ∧ ∀ v ∈ s, v.1.length = n

/-- On vectors of dimension `n` the cost function returns a `Num` value or panics at site `cs`
(never an `Err`, never another panic). -/
def CostSpec (cost : List α → Outcome ε α) (Num : α → Prop) (n : Nat) (cs : String) : Prop :=
  ∀ x, x.length = n → (∃ c, cost x = .ok c ∧ Num c) ∨ cost x = .panic cs

/-- Every vertex carries the value the cost function returns for it, and that value is `Num`. -/
def Evaluated (cost : List α → Outcome ε α) (Num : α → Prop) (s : List (Vertex α)) : Prop :=
  ∀ v ∈ s, cost v.1 = .ok v.2 ∧ Num v.2

variable {cost : List α → Outcome ε α} {Num : α → Prop} {n : Nat} {cs : String} {Q : String → Prop}

structure VOk (cost : List α → Outcome ε α) (Num : α → Prop) (n : Nat) (v : Vertex α) : Prop where
  dim : v.1.length = n
  eval : cost v.1 = .ok v.2
  num : Num v.2

/-- `Shape` and `Evaluated` together. -/
structure Simplex (cost : List α → Outcome ε α) (Num : α → Prop) (n : Nat) (s : List (Vertex α)) : Prop where
  card : s.length = n + 1
  vertex : ∀ v ∈ s, VOk cost Num n v

theorem Simplex.shape {s : List (Vertex α)} (h : Simplex cost Num n s) : Shape n s :=
  ⟨h.card, fun v hv => (h.vertex v hv).dim⟩
theorem Simplex.evaluated {s : List (Vertex α)} (h : Simplex cost Num n s) : Evaluated cost Num s :=
  fun v hv => ⟨(h.vertex v hv).eval, (h.vertex v hv).num⟩
theorem Simplex.mk' {s : List (Vertex α)} (h : Shape n s) (he : Evaluated cost Num s) : Simplex cost Num n s :=
  ⟨h.1, fun v hv => ⟨h.2 v hv, (he v hv).1, (he v hv).2⟩⟩
theorem Simplex.perm {s s' : List (Vertex α)} (h : Simplex cost Num n s) (hp : s'.Perm s) :
    Simplex cost Num n s' :=
  ⟨hp.length_eq.trans h.card, fun v hv => h.vertex v (hp.mem_iff.1 hv)⟩

def CostPanic (cost : List α → Outcome ε α) (n : Nat) (cs s : String) : Prop :=
  s = cs ∧ ∃ x, x.length = n ∧ cost x = .panic cs

theorem cost_okOr (hc : CostSpec cost Num n cs) {x : List α} (hx : x.length = n) :
    OkOr (CostPanic cost n cs) (cost x) fun c => VOk cost Num n (x, c) := by
  rcases hc x hx with ⟨c, h, hnum⟩ | h <;> rw [h]
  · exact .ok ⟨hx, h, hnum⟩
  · exact .panic ⟨rfl, x, hx, h⟩

theorem centroid_ok (hn : 0 < n) {s : List (Vertex α)} (hs : Simplex cost Num n s) :
    OkOr Q (centroid o s : Outcome ε (List α)) (·.length = n) := by
  match s, hs with
  | p0 :: rest, hs =>
    refine (foldAdd_ok hn _ (hs.vertex p0 (by simp)).dim fun p hp => ?_).bind fun a ha =>
      .ok ((vscale_length a _).trans ha)
    obtain ⟨v, hv, rfl⟩ := List.mem_map.1 hp
    exact (hs.vertex v (List.mem_cons_of_mem _ (List.dropLast_subset rest hv))).dim

theorem Simplex.replaceLast {s : List (Vertex α)} {v : Vertex α} (hs : Simplex cost Num n s)
    (hv : VOk cost Num n v) : Simplex cost Num n (replaceLast s v) := by
  refine ⟨by simp [NelderMead.replaceLast, hs.card], fun u hu => ?_⟩
  rcases List.mem_append.1 hu with h | h
  · exact hs.vertex u (List.dropLast_subset s h)
  · exact List.mem_singleton.1 h ▸ hv

theorem head?_replaceLast {s : List (Vertex α)} (v : Vertex α) (h : 2 ≤ s.length) :
    (replaceLast s v).head? = s.head? := by
  match s, h with
  | _ :: _ :: _, _ => rfl

theorem shrinkTail_cases (hn : 0 < n) (hc : CostSpec cost Num n cs) {x0 : List α} (h0 : x0.length = n)
    (vs : List (Vertex α)) (hvs : ∀ v ∈ vs, v.1.length = n) :
    OkOr (CostPanic cost n cs) (shrinkTail o cost x0 vs)
      fun r => r.length = vs.length ∧ ∀ v ∈ r, VOk cost Num n v := by
  induction vs with
  | nil => exact .ok ⟨rfl, nofun⟩
  | cons v vs ih =>
    exact (affine_ok hn _ h0 (hvs v (by simp)) h0).bind fun p hp => (cost_okOr hc hp).bind fun c hpc =>
      (ih fun u hu => hvs u (by simp [hu])).bind fun r hr =>
        .ok ⟨congrArg (· + 1) hr.1, List.forall_mem_cons.2 ⟨hpc, hr.2⟩⟩

theorem shrink_cases (hn : 0 < n) (hc : CostSpec cost Num n cs) {s : List (Vertex α)} (hs : Simplex cost Num n s) :
    OkOr (CostPanic cost n cs) (shrink o cost s) fun s' => Simplex cost Num n s' ∧ s'.head? = s.head? := by
  match s, hs with
  | v0 :: vs, hs =>
    have h0 := hs.vertex v0 (by simp)
    exact (shrinkTail_cases hn hc h0.dim vs fun v hv => (hs.vertex v (by simp [hv])).dim).bind fun r hr =>
      .ok ⟨⟨(congrArg (· + 1) hr.1).trans hs.card, List.forall_mem_cons.2 ⟨h0, hr.2⟩⟩, rfl⟩

/-- **One `next_iter`** on a simplex satisfying the invariant: the invariant and the first vertex are kept,
or a cost evaluation panicked. In particular none of the index / argmin-math / "unreachable point" sites fires. -/
theorem nextIter_cases (L : OrdLaws o Num) (hn : 0 < n) (hc : CostSpec cost Num n cs) {s : List (Vertex α)}
    (hs : Simplex cost Num n s) :
    OkOr (CostPanic cost n cs) (nextIter o cost s) fun r => Simplex cost Num n r.1 ∧ r.1.head? = s.head? := by
  have hne : s ≠ [] := List.ne_nil_of_length_eq_add_one hs.card
  have hne' : s.dropLast ≠ [] := List.ne_nil_of_length_pos (by rw [List.length_dropLast, hs.card]; exact hn)
  have hb := hs.vertex _ (List.head_mem hne)
  have hsw := hs.vertex _ (List.dropLast_subset s (List.getLast_mem hne'))
  have hw := hs.vertex _ (List.getLast_mem hne)
  have hhd := List.head?_eq_some_head hne
  unfold nextIter
  rw [hhd, List.getLast?_eq_some_getLast hne', List.getLast?_eq_some_getLast hne]
  generalize s.head hne = b, s.dropLast.getLast hne' = sw, s.getLast hne = w at hb hsw hw hhd ⊢
  have repl : ∀ (v : Vertex α), VOk cost Num n v →
      Simplex cost Num n (replaceLast s v) ∧ (replaceLast s v).head? = some b :=
    fun v hv => ⟨hs.replaceLast hv, (head?_replaceLast v (by rw [hs.card]; omega)).trans hhd⟩
  have shr : OkOr (CostPanic cost n cs) ((shrink o cost s).bind fun s' => .ok (s', Action.shrink))
      fun r : List (Vertex α) × Action => Simplex cost Num n r.1 ∧ r.1.head? = some b :=
    (shrink_cases hn hc hs).bind fun _ h => .ok ⟨h.1, h.2.trans hhd⟩
  refine (centroid_ok hn hs).bind fun x0 hx0 => (affine_ok hn _ hx0 hx0 hw.dim).bind fun xr hxr =>
    (cost_okOr hc hxr).bind fun cr hcr => ?_
  by_cases h1 : (o.lt cr sw.2 && o.le b.2 cr) = true
  · rw [if_pos h1]; exact .ok (repl _ hcr)
  rw [if_neg h1]
  by_cases h2 : o.lt cr b.2 = true
  · rw [if_pos h2]
    exact (affine_ok hn _ hx0 hxr hx0).bind fun xe hxe => (cost_okOr hc hxe).bind fun ce hce =>
      .ok (repl (if o.lt ce cr then (xe, ce) else (xr, cr)) (by split <;> assumption))
  -- `cr` is not below the best, so (the first test having failed) it is not below the second worst
  -- either: the "unreachable point" is not reached
  have hble : o.le b.2 cr = true := (L.le_iff _ _ hb.num hcr.num).2 (by simpa using h2)
  have h3 : o.le sw.2 cr = true := (L.le_iff _ _ hsw.num hcr.num).2 (by simpa [hble] using h1)
  rw [if_neg h2, if_pos h3]
  by_cases h4 : o.lt cr w.2 = true
  · rw [if_pos h4]
    refine (affine_ok hn _ hx0 hxr hx0).bind fun xc hxc => (cost_okOr hc hxc).bind fun cc hcc => ?_
    split
    · exact .ok (repl _ hcc)
    · exact shr
  · rw [if_neg h4]
    refine (affine_ok hn _ hx0 hw.dim hx0).bind fun xc hxc => (cost_okOr hc hxc).bind fun cc hcc => ?_
    split
    · exact .ok (repl _ hcc)
    · exact shr

end Iteration

end AlphaG.NelderMead
