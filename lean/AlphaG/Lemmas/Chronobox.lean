import AlphaG.Model.Chronobox
import AlphaG.Lemmas.Bytes
/-
Structural lemmas about the direct chronobox model (`entries`, `block?`, `parse`, `channelId`):
unfolding lemmas, behaviour under appending more bytes, progress. Core Lean only.
-/
namespace AlphaG.Chronobox

theorem entries_short {l : List UInt8} (h : l.length < 4) : entries l = ([], l) :=
  entries.eq_2 l fun _ _ _ _ _ e => by subst e; simp at h; omega

theorem entries_cons_some {b0 b1 b2 b3 : UInt8} {e : Entry} (rest : List UInt8)
    (h : (classify b0 b1 b2 b3).entry? = some e) :
    entries (b0 :: b1 :: b2 :: b3 :: rest) = (e :: (entries rest).1, (entries rest).2) := by
  rw [entries]
  cases hc : classify b0 b1 b2 b3 with
  | ts ch ed t => rw [hc] at h; cases h; rfl
  | marker top c => rw [hc] at h; cases h; rfl
  | other => rw [hc] at h; cases h

theorem entries_cons_other {b0 b1 b2 b3 : UInt8} (rest : List UInt8)
    (h : classify b0 b1 b2 b3 = .other) :
    entries (b0 :: b1 :: b2 :: b3 :: rest) = ([], b0 :: b1 :: b2 :: b3 :: rest) := by
  rw [entries, h]

/-- Induction along `entries`: a word that is an entry is consumed, anything else stops the run. -/
theorem entries_induct {motive : List UInt8 → Prop}
    (word : ∀ b0 b1 b2 b3 rest e, (classify b0 b1 b2 b3).entry? = some e → motive rest →
      motive (b0 :: b1 :: b2 :: b3 :: rest))
    (stop : ∀ l, entries l = ([], l) → motive l) (l : List UInt8) : motive l := by
  fun_induction entries l with
  | case1 b0 b1 b2 b3 rest ch e t h ih => exact word _ _ _ _ _ (.ts ch e t) (by rw [h]; rfl) ih
  | case2 b0 b1 b2 b3 rest top c h ih => exact word _ _ _ _ _ (.marker top c) (by rw [h]; rfl) ih
  | case3 b0 b1 b2 b3 rest h => exact stop _ (entries_cons_other rest h)
  | case4 l h => exact stop _ (entries.eq_2 l h)

theorem entries_idem (l : List UInt8) : entries (entries l).2 = ([], (entries l).2) := by
  induction l using entries_induct with
  | word b0 b1 b2 b3 rest e h ih => rw [entries_cons_some rest h]; exact ih
  | stop l h => rw [h]; exact h

/-- What follows a run of entries: a complete block and the parse of the rest, or nothing. -/
def tailOf (r : List UInt8) : List Entry × List UInt8 :=
  match block? r with
  | some r' => parse r'
  | none => ([], r)

theorem parse_eq_tail (l : List UInt8) :
    parse l = ((entries l).1 ++ (tailOf (entries l).2).1, (tailOf (entries l).2).2) := by
  rw [parse.eq_1 l, tailOf]
  split <;> simp [*]

theorem parse_of_block {l r' : List UInt8} (h : block? (entries l).2 = some r') :
    parse l = ((entries l).1 ++ (parse r').1, (parse r').2) := by
  rw [parse_eq_tail, tailOf, h]

theorem parse_of_noblock {l : List UInt8} (h : block? (entries l).2 = none) :
    parse l = entries l := by
  rw [parse_eq_tail, tailOf, h, List.append_nil]

theorem channelId_eq (n : Nat) :
    channelId n = if n < numInputChannels then .ok n else .err () := by
  simp [channelId, need, numInputChannels]

/-- The tag's top byte `0xFE` is in neither class. -/
theorem classify_tag : classify 0x3C 0x00 0x00 0xFE = .other := by decide

theorem block?_eq_some {l r : List UInt8} :
    block? l = some r ↔ ∃ p, p.length = blockPayload ∧ l = 0x3C :: 0x00 :: 0x00 :: 0xFE :: (p ++ r) := by
  constructor
  · intro h
    unfold block? at h
    split at h
    · rename_i rest
      split at h
      · injection h with h; subst h
        exact ⟨rest.take blockPayload, by simp; omega, by simp⟩
      · contradiction
    · contradiction
  · rintro ⟨p, hp, rfl⟩
    simp [block?, hp]

theorem entries_append (a b : List UInt8) :
    entries (a ++ b)
      = ((entries a).1 ++ (entries ((entries a).2 ++ b)).1, (entries ((entries a).2 ++ b)).2) := by
  induction a using entries_induct with
  | word b0 b1 b2 b3 rest e h ih =>
    rw [List.cons_append, List.cons_append, List.cons_append, List.cons_append,
      entries_cons_some _ h, entries_cons_some _ h, ih]; rfl
  | stop l h => rw [h]; rfl

theorem entries_of_block {l r : List UInt8} (h : block? l = some r) (b : List UInt8) :
    entries (l ++ b) = ([], l ++ b) ∧ block? (l ++ b) = some (r ++ b) := by
  obtain ⟨p, hp, rfl⟩ := block?_eq_some.1 h
  constructor
  · simp [entries, classify_tag]
  · exact block?_eq_some.2 ⟨p, hp, by simp⟩

/-- C07 (resumability, core step): parsing `a ++ b` is parsing `a`, then parsing the remainder
of `a` with `b` appended. -/
theorem parse_append (a b : List UInt8) :
    parse (a ++ b)
      = ((parse a).1 ++ (parse ((parse a).2 ++ b)).1, (parse ((parse a).2 ++ b)).2) := by
  fun_induction parse a with
  | case1 l r' h ih =>
    have ⟨h1, h2⟩ := entries_of_block h b
    have hb : block? (entries (l ++ b)).2 = some (r' ++ b) := by rw [entries_append, h1]; exact h2
    rw [parse_of_block hb, entries_append, h1, ih]
    simp [List.append_assoc]
  | case2 l h =>
    rw [parse_eq_tail (l ++ b), entries_append, parse_eq_tail ((entries l).2 ++ b)]
    simp [List.append_assoc]

theorem entries_length (l : List UInt8) :
    4 * (entries l).1.length + (entries l).2.length = l.length := by
  induction l using entries_induct with
  | word b0 b1 b2 b3 rest e h ih =>
    rw [entries_cons_some _ h]; simp only [List.length_cons]; omega
  | stop l h => rw [h]; simp

theorem block?_length {l r : List UInt8} (h : block? l = some r) : r.length + 244 = l.length := by
  obtain ⟨p, hp, rfl⟩ := block?_eq_some.1 h
  simp [hp, blockPayload, numInputChannels]; omega

theorem block?_drop {l r : List UInt8} (h : block? l = some r) : l.drop 244 = r := by
  obtain ⟨p, hp, rfl⟩ := block?_eq_some.1 h
  have : 240 = p.length := by rw [hp]; rfl
  simp [this]

theorem parse_length (l : List UInt8) :
    4 * (parse l).1.length + (parse l).2.length ≤ l.length := by
  fun_induction parse l with
  | case1 l r' h ih =>
    have := entries_length l
    have := block?_length h
    simp only [List.length_append]
    omega
  | case2 l h =>
    have := entries_length l
    omega

end AlphaG.Chronobox
